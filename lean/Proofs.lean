import Proofs.Lemmas.BitSlot
import Proofs.Lemmas.Bits
import Proofs.Lemmas.CoreBus
import Proofs.Lemmas.Decoder
import Proofs.Lemmas.Emit
import Proofs.Lemmas.Except
import Proofs.Lemmas.Exec
import Proofs.Lemmas.Vset
import Proofs.Cycle
import Proofs.Cycle.Poll
import Proofs.Cycle.Book
import Proofs.Mmio.Bits
import Proofs.Mmio.Write
import Proofs.Mmio.Xfer
import Proofs.C01
import Proofs.C02
import Proofs.C02All
import Proofs.C02Fetch
import Proofs.C02Golden
import Proofs.C03
import Proofs.C03All
import Proofs.C03Exec
import Proofs.C03b
import Proofs.C04
import Proofs.C04All
import Proofs.C04b
import Proofs.C05
import Proofs.C05All
import Proofs.C05Dis
import Proofs.C06
import Proofs.C06Script
import Proofs.C06Host
import Proofs.C06Sys
import Proofs.C06Sys.SelfBranch
import Proofs.C06Sys.Ticks
import Proofs.C06Sys.Witness
import Proofs.C07
import Proofs.C07.Entry
import Proofs.C07.Raise
import Proofs.C07.Reti
import Proofs.C07Icu
import Proofs.C08
import Proofs.C08.Ctx
import Proofs.C08Stack
import Proofs.C08Stack.Abs
import Proofs.C08Stack.Acc
import Proofs.C08Stack.Call
import Proofs.C08Stack.CallRet
import Proofs.C08Stack.Cycle
import Proofs.C08Stack.Examples
import Proofs.C08Stack.Interrupt
import Proofs.C08Stack.PHigh
import Proofs.C08Stack.PushPop
import Proofs.C08Stack.Pusha
import Proofs.C08Stack.PxAbe
import Proofs.C08Stack.Status
import Proofs.C08Stack.StatusNorm
import Proofs.C08Stack.StatusPush
import Proofs.C08Stack.Word
import Proofs.C09
import Proofs.C09.Block
import Proofs.C09.Decode
import Proofs.C09.Frame
import Proofs.C09.FrameRun
import Proofs.C09.Handlers
import Proofs.C09.Nest
import Proofs.C09.Plain
import Proofs.C09.Rep
import Proofs.C09.RoundTrip
import Proofs.C10
import Proofs.C10.Basic
import Proofs.C10.Cyclic
import Proofs.C10.Lift
import Proofs.C10.Mod
import Proofs.C10.Rn
import Proofs.C10.Step
import Proofs.C10.Wrap
import Proofs.C11
import Proofs.C12
import Proofs.C12Bind
import Proofs.C12BindGolden
import Proofs.C13
import Proofs.C14
import Proofs.C15
import Proofs.C16
import Proofs.C17
import Proofs.C18
import Proofs.C19
import Proofs.C19Conc
import Proofs.C19Golden
import Proofs.C19Lock
import Proofs.C19Pinned
import Proofs.C19Step
import Proofs.C19Wake
import Proofs.C20
import Proofs.C20Golden
import Proofs.CBinding
import Proofs.Facade
import Proofs.FacadeGolden
