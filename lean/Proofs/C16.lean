import TeakraModel.Btdmp
import Proofs.Lemmas.Except
/-!
# C16 — audio FIFO: every queued word is output once, in order, one frame per period

Property theorems about `Teakra.Btdmp` (model of `src/btdmp.cpp` / `src/btdmp.h`); the tie to the
C++ is the `btdmp` correspondence slice.

Standing assumptions, stated as hypotheses wherever they are used:

* `Inv b` — the full/empty flags agree with the queue and the queue holds at most 16 words.
  It holds after `Reset` and is preserved by every operation (`flags_exact`).
* `Clk b` — `1 ≤ period ∧ timer < period`.  It holds after `Reset` (period 4096, timer 0) and is
  preserved by every operation except a `SetTransmitPeriod` write of a value `≤ timer`
  (nothing in the facade writes the period: it is constant 4096 there).  Outside `Clk` the
  fast-forward property is false (`skip_ne_ticks_timer_ge_period`), and with period 0 the C++
  `Skip` divides by zero.
* `timer + k < 2^64` for a skip over an *infinite* horizon (`u64 future_timer = transmit_timer +
  ticks` wraps otherwise: `skip_wrap_counterexample`).  For a finite horizon it is implied.
-/
namespace Teakra.Btdmp

/- `Inv` (flag invariant) and `Clk` (well-formed frame clock) are defined next to the model, in
`TeakraModel/Btdmp.lean`: the system model uses them as an executable guard. -/

/-- The two oldest words in order, zeros for missing words. -/
def pad2 : List U16 → Frame
  | [] => (0, 0)
  | [a] => (a, 0)
  | a :: b :: _ => (a, b)

/-- A frame is due at the next `Tick`: transmission is on and the incremented timer reaches the period. -/
def Due (b : Btdmp) : Prop := b.enable ≠ 0 ∧ b.period ≤ b.timer + 1
instance : DecidablePred Due := fun _ => inferInstanceAs (Decidable (_ ∧ _))

/-! ## queue writes and flags -/

/-- **A write is accepted iff fewer than 16 words are queued**; an accepted word goes to the end,
the empty flag clears and the full flag is set exactly when this was the 16th word.  Nothing else
changes. -/
theorem send_spec (b : Btdmp) (v : U16) (h : Inv b) :
    send b v = if b.queue.length < 16
      then { b with queue := b.queue ++ [v], empty := false, full := decide (b.queue.length = 15) }
      else b := by
  obtain ⟨_, _, h3⟩ := h
  unfold send
  by_cases h16 : b.queue.length = 16
  · simp [h16]
  · have : b.queue.length < 16 := by omega
    simp [h16, this]

/-- **Writes to a full 16-word queue are dropped**: nothing at all changes. -/
theorem full_drop (b : Btdmp) (v : U16) (h : b.queue.length = 16) : send b v = b := by
  simp [send, h]

/-- **Flushing empties the queue silently**: the queue becomes empty, the flags say so, nothing
else changes; the operation has no way to emit a frame or call the interrupt handler (its model
returns a bare state; see also `apply_flush`). -/
theorem flush_silent (b : Btdmp) (v : U16) :
    setTransmitFlush b v = { b with queue := [], empty := true, full := false } := rfl

private theorem inv_congr {b b' : Btdmp} (hq : b'.queue = b.queue) (he : b'.empty = b.empty)
    (hf : b'.full = b.full) (h : Inv b) : Inv b' := by
  unfold Inv at *; rw [hq, he, hf]; exact h

theorem inv_reset (b : Btdmp) : Inv (reset b) := by
  show Inv ({} : Btdmp); decide

theorem inv_send (b : Btdmp) (v : U16) (h : Inv b) : Inv (send b v) := by
  rw [send_spec b v h]
  obtain ⟨h1, h2, h3⟩ := h
  split
  · refine ⟨by simp, ?_, by simp; omega⟩
    simp only [List.length_append, List.length_singleton]
    rw [decide_eq_decide]; omega
  · exact ⟨h1, h2, h3⟩

theorem inv_flush (b : Btdmp) (v : U16) : Inv (setTransmitFlush b v) := by
  simp [Inv, setTransmitFlush]

theorem inv_setEnable (b : Btdmp) (v : U16) (h : Inv b) : Inv (setTransmitEnable b v) :=
  inv_congr rfl rfl rfl h
theorem inv_setPeriod (b : Btdmp) (v : U16) (h : Inv b) : Inv (setTransmitPeriod b v) :=
  inv_congr rfl rfl rfl h
theorem inv_setClockConfig (b : Btdmp) (v : U16) (h : Inv b) : Inv (setTransmitClockConfig b v) :=
  inv_congr rfl rfl rfl h

/-! ## one tick -/

/-- The frame step of `Tick` in closed form: the frame is `pad2` of the queue, two words (or what
is there) leave the queue, and the interrupt handler is called once iff 1 or 2 words were queued. -/
theorem tickFrame_spec (b : Btdmp) :
    tickFrame b =
      (if b.queue = [] then b
       else { b with queue := b.queue.drop 2, empty := (b.queue.drop 2).isEmpty, full := false },
       pad2 b.queue,
       if 1 ≤ b.queue.length ∧ b.queue.length ≤ 2 then 1 else 0) := by
  unfold tickFrame tickSlot
  rcases hq : b.queue with _ | ⟨w0, _ | ⟨w1, _ | ⟨w2, q⟩⟩⟩ <;> simp [hq, pad2]

private theorem tickFrame_cfg (b : Btdmp) :
    (tickFrame b).1.period = b.period ∧ (tickFrame b).1.enable = b.enable ∧
    (tickFrame b).1.clockConfig = b.clockConfig := by
  rw [tickFrame_spec]; split <;> simp

private theorem tickFrame_queue (b : Btdmp) : (tickFrame b).1.queue = b.queue.drop 2 := by
  rw [tickFrame_spec]; split <;> simp_all

private theorem inv_tickFrame (b : Btdmp) (h : Inv b) : Inv (tickFrame b).1 := by
  rw [tickFrame_spec]
  obtain ⟨h1, h2, h3⟩ := h
  split
  · exact ⟨h1, h2, h3⟩
  · refine ⟨rfl, ?_, by simp; omega⟩
    simp only [List.length_drop]
    symm; rw [decide_eq_false_iff_not]; omega

/-- The frame step neither reads nor writes the timer (`tickFrame_setTimer`), so phase and frames
separate: `tick_due`, `ticks_closed` and the `Skip` lemmas have the form
`setTimer (frame steps of b) phase`. -/
def setTimer (b : Btdmp) (x : U16) : Btdmp := { b with timer := x }

@[simp] private theorem setTimer_period (b : Btdmp) (x : U16) : (setTimer b x).period = b.period := rfl
@[simp] private theorem setTimer_timer (b : Btdmp) (x : U16) : (setTimer b x).timer = x := rfl
@[simp] private theorem setTimer_enable (b : Btdmp) (x : U16) : (setTimer b x).enable = b.enable := rfl
@[simp] private theorem setTimer_queue (b : Btdmp) (x : U16) : (setTimer b x).queue = b.queue := rfl
@[simp] private theorem setTimer_empty (b : Btdmp) (x : U16) : (setTimer b x).empty = b.empty := rfl
private theorem setTimer_setTimer (b : Btdmp) (x y : U16) : setTimer (setTimer b x) y = setTimer b y := rfl
private theorem setTimer_self (b : Btdmp) : setTimer b b.timer = b := rfl

private theorem tickSlot_setTimer (b : Btdmp) (x : U16) :
    tickSlot (setTimer b x) = (setTimer (tickSlot b).1 x, (tickSlot b).2) := by
  unfold tickSlot setTimer
  rcases hq : b.queue with _ | ⟨w, q⟩ <;> simp [hq]

private theorem tickFrame_setTimer (b : Btdmp) (x : U16) :
    tickFrame (setTimer b x) = (setTimer (tickFrame b).1 x, (tickFrame b).2) := by
  simp [tickFrame, tickSlot_setTimer]

private theorem tick_due (b : Btdmp) (h : Due b) :
    tick b = (setTimer (tickFrame b).1 0, [(tickFrame b).2.1], (tickFrame b).2.2) := by
  obtain ⟨he, hd⟩ := h
  simp only [tick, he, hd, if_false, if_true]
  exact congrArg (fun r => (r.1, [r.2.1], r.2.2)) (tickFrame_setTimer b 0)

private theorem tick_not_due (b : Btdmp) (h : ¬ Due b) :
    tick b = (if b.enable = 0 then b else setTimer b (b.timer + 1), [], 0) := by
  unfold Due at h
  by_cases he : b.enable = 0
  · simp only [tick, he, if_true]
  · have hd : ¬ b.period ≤ b.timer + 1 := fun hd => h ⟨he, hd⟩
    simp only [tick, he, hd, if_false]; rfl

/-- **One tick.**  When transmission is enabled and the timer reaches the period, exactly one
frame is emitted; it consists of the two oldest queued words in order, with zeros for missing
words; exactly those words leave the queue and the timer restarts at 0.  Otherwise no frame is
emitted, the queue is untouched, no interrupt is raised, and the timer advances by one iff
transmission is enabled. -/
theorem tick_frame (b : Btdmp) :
    (Due b → (tick b).2.1 = [pad2 b.queue] ∧ (tick b).1.queue = b.queue.drop 2 ∧
             (tick b).1.timer = 0) ∧
    (¬ Due b → (tick b).2.1 = [] ∧ (tick b).1.queue = b.queue ∧ (tick b).2.2 = 0 ∧
               (tick b).1.timer = if b.enable = 0 then b.timer else b.timer + 1) := by
  constructor
  · intro h
    rw [tick_due b h]
    refine ⟨?_, ?_, ?_⟩
    · simp only [tickFrame_spec]
    · exact tickFrame_queue b
    · rfl
  · intro h
    rw [tick_not_due b h]
    refine ⟨rfl, ?_, rfl, ?_⟩ <;> split <;> rfl

/-- `Tick` never touches the configuration. -/
theorem tick_cfg (b : Btdmp) :
    (tick b).1.period = b.period ∧ (tick b).1.enable = b.enable ∧
    (tick b).1.clockConfig = b.clockConfig := by
  by_cases h : Due b
  · rw [tick_due b h]; exact tickFrame_cfg b
  · rw [tick_not_due b h]; split <;> exact ⟨rfl, rfl, rfl⟩

theorem inv_tick (b : Btdmp) (h : Inv b) : Inv (tick b).1 := by
  by_cases hd : Due b
  · rw [tick_due b hd]; exact inv_congr rfl rfl rfl (inv_tickFrame b h)
  · rw [tick_not_due b hd]; split
    · exact h
    · exact inv_congr rfl rfl rfl h

theorem clk_tick (b : Btdmp) (h : Clk b) : Clk (tick b).1 := by
  obtain ⟨h1, h2⟩ := h
  by_cases hd : Due b
  · rw [tick_due b hd]
    show 1 ≤ (tickFrame b).1.period ∧ 0 < (tickFrame b).1.period
    rw [(tickFrame_cfg b).1]
    exact ⟨h1, h1⟩
  · rw [tick_not_due b hd]
    split
    · exact ⟨h1, h2⟩
    · rename_i he
      exact ⟨h1, BitVec.not_le.mp fun hh => hd ⟨he, hh⟩⟩

/-- **The empty interrupt fires exactly when a pop empties the queue** (one slot of a frame):
the handler is called once iff a word was popped and the queue is empty afterwards. -/
theorem slot_irq_iff (b : Btdmp) :
    (tickSlot b).2.2 = if b.queue ≠ [] ∧ (tickSlot b).1.queue = [] then 1 else 0 := by
  unfold tickSlot
  rcases hq : b.queue with _ | ⟨w, _ | ⟨w', q⟩⟩ <;> simp

/-- **The empty interrupt fires exactly when a pop empties the queue** (one tick): the number of
interrupt-handler calls of a tick is 1 if this tick popped at least one word and left the queue
empty, and 0 otherwise — in particular never more than one, none on ticks without a frame, none
on an underrun frame of an already empty queue, and none while words remain. -/
theorem empty_irq_iff (b : Btdmp) :
    (tick b).2.2 =
      if (tick b).1.queue.length < b.queue.length ∧ (tick b).1.queue = [] then 1 else 0 := by
  by_cases hd : Due b
  · rw [tick_due b hd]
    simp only [tickFrame_spec]
    rcases hq : b.queue with _ | ⟨w0, _ | ⟨w1, _ | ⟨w2, q⟩⟩⟩ <;> simp
  · have := (tick_frame b).2 hd
    rw [this.2.2.1, this.2.1]; simp

/-! ## many ticks -/

/-- `k` calls of `Tick`: final state, all frames in emission order, total interrupt-handler calls. -/
def ticksCore : Nat → Btdmp → Btdmp × List Frame × Nat
  | 0, b => (b, [], 0)
  | k + 1, b =>
    let r := tick b
    let r' := ticksCore k r.1
    (r'.1, r.2.1 ++ r'.2.1, r.2.2 + r'.2.2)

/-- `c` consecutive frame steps (what `Tick` does each time the timer reaches the period). -/
def tickFrames : Nat → Btdmp → Btdmp × List Frame × Nat
  | 0, b => (b, [], 0)
  | c + 1, b =>
    let r := tickFrame b
    let r' := tickFrames c r.1
    (r'.1, r.2.1 :: r'.2.1, r.2.2 + r'.2.2)

theorem ticksCore_succ_last (k : Nat) : ∀ b : Btdmp,
    ticksCore (k + 1) b =
      ((tick (ticksCore k b).1).1, (ticksCore k b).2.1 ++ (tick (ticksCore k b).1).2.1,
        (ticksCore k b).2.2 + (tick (ticksCore k b).1).2.2) := by
  induction k with
  | zero => intro b; simp [ticksCore]
  | succ k ih =>
    intro b
    rw [ticksCore, ih]
    simp only [ticksCore, List.append_assoc, Nat.add_assoc]

private theorem tickFrames_setTimer (c : Nat) : ∀ (b : Btdmp) (x : U16),
    tickFrames c (setTimer b x) = (setTimer (tickFrames c b).1 x, (tickFrames c b).2) := by
  induction c with
  | zero => intro b x; rfl
  | succ c ih => intro b x; simp [tickFrames, tickFrame_setTimer, ih]

private theorem tickFrames_length (c : Nat) : ∀ (b : Btdmp), (tickFrames c b).2.1.length = c := by
  induction c with
  | zero => intro b; rfl
  | succ c ih => intro b; simp [tickFrames, ih]

private theorem tickFrames_queue (c : Nat) : ∀ (b : Btdmp),
    (tickFrames c b).1.queue = b.queue.drop (2 * c) := by
  induction c with
  | zero => intro b; simp [tickFrames]
  | succ c ih =>
    intro b
    simp only [tickFrames, ih, tickFrame_queue, List.drop_drop]
    congr 1; omega

private theorem tickFrames_irqs (c : Nat) : ∀ (b : Btdmp),
    (tickFrames c b).2.2 = if 0 < b.queue.length ∧ b.queue.length ≤ 2 * c then 1 else 0 := by
  induction c with
  | zero => intro b; simp only [tickFrames]; split <;> omega
  | succ c ih =>
    intro b
    have h1 : (tickFrame b).2.2 = if 1 ≤ b.queue.length ∧ b.queue.length ≤ 2 then 1 else 0 := by
      rw [tickFrame_spec]
    simp only [tickFrames, ih, h1, tickFrame_queue, List.length_drop]
    generalize b.queue.length = n
    -- the frame that empties the queue is the first (`1 ≤ n ≤ 2`) or one of the others (`2 < n`), never both
    by_cases h : 1 ≤ n ∧ n ≤ 2
    · rw [if_pos h, if_neg (by omega), if_pos (by omega)]
    · rw [if_neg h, Nat.zero_add]; congr 1; exact propext (by omega)

/-- **`k` ticks in closed form.**  With transmission enabled and a well-formed clock, `k` ticks
from phase `t` with period `p` perform exactly `(t + k) / p` frame steps — one every `p` cycles,
the first when the timer reaches the period — and leave the phase at `(t + k) % p`. -/
theorem ticks_closed (k : Nat) : ∀ (b : Btdmp), b.enable ≠ 0 → Clk b →
    ticksCore k b =
      (setTimer (tickFrames ((b.timer.toNat + k) / b.period.toNat) b).1
         (BitVec.ofNat 16 ((b.timer.toNat + k) % b.period.toNat)),
       (tickFrames ((b.timer.toNat + k) / b.period.toNat) b).2) := by
  induction k with
  | zero =>
    intro b _ hc
    obtain ⟨h1, h2⟩ := hc
    have hlt : b.timer.toNat < b.period.toNat := h2
    simp [ticksCore, Nat.div_eq_of_lt hlt, Nat.mod_eq_of_lt hlt, tickFrames, setTimer_self]
  | succ k ih =>
    intro b he hc
    have ih' := ih (tick b).1 (by rw [(tick_cfg b).2.1]; exact he) (clk_tick b hc)
    have hlt : b.timer.toNat < b.period.toNat := hc.2
    -- below the period the 16-bit increment does not wrap
    have hs : (b.timer + 1).toNat = b.timer.toNat + 1 :=
      (BitVec.toNat_add ..).trans (Nat.mod_eq_of_lt (Nat.lt_of_le_of_lt hlt b.period.isLt))
    rw [(tick_cfg b).1] at ih'
    simp only [ticksCore, ih']
    by_cases hdue : Due b
    · have hpt : b.timer.toNat + (k + 1) = k + b.period.toNat := by
        have : b.period.toNat ≤ (b.timer + 1).toNat := hdue.2
        omega
      simp only [tick_due b hdue, hpt, Nat.add_div_right _ (Nat.zero_lt_of_lt hlt), Nat.add_mod_right, tickFrames,
        setTimer_timer, tickFrames_setTimer, setTimer_setTimer, show BitVec.toNat (0 : U16) = 0 from rfl, Nat.zero_add,
        List.singleton_append]
    · have hnd : (b.timer + 1).toNat + k = b.timer.toNat + (k + 1) := by omega
      simp only [tick_not_due b hdue, if_neg he, setTimer_timer, hnd, tickFrames_setTimer, setTimer_setTimer,
        List.nil_append, Nat.zero_add]

/-- With transmission disabled ticks do nothing at all. -/
theorem ticks_disabled (k : Nat) (b : Btdmp) (he : b.enable = 0) : ticksCore k b = (b, [], 0) := by
  induction k with
  | zero => rfl
  | succ k ih =>
    have ht : tick b = (b, [], 0) := by simp only [tick, he, if_true]
    simp [ticksCore, ht, ih]

/-- **Exactly one frame per period.**  While transmission is enabled, `period` consecutive
ticks, from any phase, emit exactly one frame — the two oldest words in order, zeros for
missing — remove exactly those words and return to the same phase. -/
theorem one_frame_per_period (b : Btdmp) (he : b.enable ≠ 0) (hc : Clk b) :
    (ticksCore b.period.toNat b).2.1 = [pad2 b.queue] ∧
    (ticksCore b.period.toNat b).1.queue = b.queue.drop 2 ∧
    (ticksCore b.period.toNat b).1.timer = b.timer := by
  have hlt : b.timer.toNat < b.period.toNat := hc.2
  have e1 : (b.timer.toNat + b.period.toNat) / b.period.toNat = 1 := by
    rw [Nat.add_div_right _ (by omega), Nat.div_eq_of_lt hlt]
  have e2 : (b.timer.toNat + b.period.toNat) % b.period.toNat = b.timer.toNat := by
    rw [Nat.add_mod_right, Nat.mod_eq_of_lt hlt]
  rw [ticks_closed _ b he hc, e1, e2]
  refine ⟨?_, ?_, ?_⟩
  · simp [tickFrames, tickFrame_spec]
  · simp [tickFrames, tickFrame_queue]
  · simp

/-- **Frame rate.**  While enabled, `k` ticks from phase `t` emit exactly `(t + k) / period` frames. -/
theorem frame_count (b : Btdmp) (he : b.enable ≠ 0) (hc : Clk b) (k : Nat) :
    (ticksCore k b).2.1.length = (b.timer.toNat + k) / b.period.toNat := by
  rw [ticks_closed k b he hc]; exact tickFrames_length _ _

/-- **The empty interrupt over many ticks**: while enabled, `k` ticks call the interrupt handler
exactly once if the queue was non-empty and one of the frames of these ticks empties it, and
never otherwise. -/
theorem irq_count (b : Btdmp) (he : b.enable ≠ 0) (hc : Clk b) (k : Nat) :
    (ticksCore k b).2.2 =
      if 0 < b.queue.length ∧ b.queue.length ≤ 2 * ((b.timer.toNat + k) / b.period.toNat)
      then 1 else 0 := by
  rw [ticks_closed k b he hc]; exact tickFrames_irqs _ _

/-! ## fast-forward

The model cuts `Btdmp::Skip` into `skipPre` (the timer arithmetic: new phase, number of frames) and
`skipLoop` over `skipFrame` = two `skipSlot`s, the last three each with an `…Ok` guard for the
`ASSERT`.  `skipPre_eq` and `frames_eq` equate the two halves with the two halves of `ticks_closed`
(phase, `tickFrames`); `skip_core` puts them together. -/

/-- On a queue that is empty or outlasts the frame, `skipFrame` passes its `ASSERT`s and is
`tickFrame`.  `b.empty = false` is needed for equal states: `Skip` does not write `transmit_empty`,
`Tick` does. -/
private theorem frame_eq (b : Btdmp) (h : b.queue = [] ∨ (2 < b.queue.length ∧ b.empty = false)) :
    skipFrameOk b = true ∧ tickFrame b = ((skipFrame b).1, (skipFrame b).2, 0) := by
  rcases b with ⟨cc, pe, ti, en, e, f, q⟩
  rcases q with _ | ⟨w0, _ | ⟨w1, _ | ⟨w2, q⟩⟩⟩ <;>
    simp_all [tickFrame, tickSlot, skipFrame, skipSlot, skipFrameOk, skipSlotOk]

private theorem skipFrame_fields (b : Btdmp) :
    (skipFrame b).1.queue = b.queue.drop 2 ∧ (skipFrame b).1.empty = b.empty ∧
    (skipFrame b).1.timer = b.timer ∧ (skipFrame b).1.period = b.period ∧
    (skipFrame b).1.enable = b.enable ∧ (skipFrame b).1.clockConfig = b.clockConfig ∧
    (skipFrame b).2 = pad2 b.queue := by
  rcases b with ⟨cc, pe, ti, en, e, f, q⟩
  rcases q with _ | ⟨w0, _ | ⟨w1, q⟩⟩ <;> simp [skipFrame, skipSlot, pad2]

private theorem frames_eq (c : Nat) : ∀ (b : Btdmp),
    (b.queue = [] ∨ (2 * c < b.queue.length ∧ b.empty = false)) →
    skipLoopOk c b = true ∧ tickFrames c b = ((skipLoop c b).1, (skipLoop c b).2, 0) := by
  induction c with
  | zero => intro b _; simp [skipLoopOk, tickFrames, skipLoop]
  | succ c ih =>
    intro b h
    have hf := frame_eq b (by rcases h with h | h; exact .inl h; exact .inr ⟨by omega, h.2⟩)
    have hs := skipFrame_fields b
    have h' : (skipFrame b).1.queue = [] ∨
        (2 * c < (skipFrame b).1.queue.length ∧ (skipFrame b).1.empty = false) := by
      rw [hs.1, hs.2.1]
      rcases h with h | h
      · left; simp [h]
      · right; refine ⟨?_, h.2⟩; simp; omega
    have := ih _ h'
    simp [skipLoopOk, tickFrames, skipLoop, hf.1, hf.2, this.1, this.2]

private theorem skipPre_eq (b : Btdmp) (hc : Clk b) (k : Nat) (hov : b.timer.toNat + k < 2 ^ 64) :
    skipPre b k = (setTimer b (BitVec.ofNat 16 ((b.timer.toNat + k) % b.period.toNat)),
      (b.timer.toNat + k) / b.period.toNat) := by
  have h : ¬ b.period ≤ b.timer := BitVec.not_le.mpr hc.2
  simp only [skipPre, h, if_false, Nat.mod_eq_of_lt hov]; rfl

/-- A finite horizon ends one tick short of the frame that empties the queue, the
`(length + 1) / 2`-th from now. -/
private theorem maxSkip_eq (b : Btdmp) (hi : Inv b) (hc : Clk b) (he : b.enable ≠ 0) (hq : b.queue ≠ []) :
    b.timer.toNat + maxSkip b + 1 = (b.queue.length + 1) / 2 * b.period.toNat ∧
    (b.queue.length + 1) / 2 * b.period.toNat ≤ 8 * 65536 := by
  obtain ⟨_, _, hlen⟩ := hi
  have hlt : b.timer.toNat < b.period.toNat := hc.2
  have hp16 : b.period.toNat < 65536 := b.period.isLt
  have hn : 0 < b.queue.length := List.length_pos_iff.mpr hq
  have hq' : b.queue.isEmpty = false := by simpa using hq
  obtain ⟨f, hf⟩ := Nat.exists_eq_add_one_of_ne_zero (n := (b.queue.length + 1) / 2) (by omega)
  have hmp : f * b.period.toNat ≤ 7 * 65536 := Nat.mul_le_mul (by omega) (by omega)
  simp only [maxSkip, he, hq', false_or, Bool.false_eq_true, if_false, hc.2, if_true, hf,
    Nat.add_sub_cancel, Nat.succ_mul]
  rw [Nat.mod_eq_of_lt (by omega)]
  omega

/-- **The horizon in numbers.**  With transmission enabled and a non-empty queue the reported
horizon is finite, a skip within it performs fewer frame steps than would empty the queue
(`2 · frames < queued words`), and `transmit_timer + k` cannot wrap. -/
theorem horizon_frames (b : Btdmp) (hi : Inv b) (hc : Clk b) (he : b.enable ≠ 0) (hq : b.queue ≠ [])
    (k : Nat) (hk : k ≤ maxSkip b) :
    2 * ((b.timer.toNat + k) / b.period.toNat) < b.queue.length ∧ b.timer.toNat + k < 2 ^ 64 ∧
    maxSkip b < 2 ^ 20 := by
  obtain ⟨hm, hF⟩ := maxSkip_eq b hi hc he hq
  have hlt : b.timer.toNat < b.period.toNat := hc.2
  have hdiv : (b.timer.toNat + k) / b.period.toNat < (b.queue.length + 1) / 2 := by
    rw [Nat.div_lt_iff_lt_mul (by omega)]; omega
  omega

private theorem skip_core (b : Btdmp) (hi : Inv b) (hc : Clk b) (k : Nat) (hk : k ≤ maxSkip b)
    (hov : maxSkip b = infinity → b.timer.toNat + k < 2 ^ 64) :
    skipDefined b = true ∧ skipOk b k = true ∧
    ticksCore k b = ((skipCore b k).1, (skipCore b k).2, 0) := by
  by_cases he : b.enable = 0
  · simp [skipDefined, skipOk, skipCore, he, ticks_disabled k b he]
  have hdef : skipDefined b = true := by
    have hp : b.period ≠ 0 := fun h => absurd (h ▸ hc.1) (by decide)
    rw [skipDefined, bne_iff_ne.mpr hp, Bool.or_true]
  have hcond : (b.queue = [] ∨
      (2 * ((b.timer.toNat + k) / b.period.toNat) < b.queue.length ∧ b.empty = false)) ∧
      b.timer.toNat + k < 2 ^ 64 := by
    by_cases hq : b.queue = []
    · exact ⟨.inl hq, hov (by simp [maxSkip, hq])⟩
    · have := horizon_frames b hi hc he hq k hk
      refine ⟨.inr ⟨this.1, ?_⟩, this.2.1⟩
      rw [hi.1]; simpa using hq
  have hpre := skipPre_eq b hc k hcond.2
  have hfr := frames_eq ((b.timer.toNat + k) / b.period.toNat)
    (setTimer b (BitVec.ofNat 16 ((b.timer.toNat + k) % b.period.toNat))) hcond.1
  refine ⟨hdef, ?_, ?_⟩
  · simp only [skipOk, he, if_false, hpre, hfr.1]
  · rw [ticks_closed k b he hc]
    simp only [skipCore, he, if_false, hpre]
    rw [← hfr.2, tickFrames_setTimer]

/-- **Fast-forward is exact.**  Under the flag invariant and a well-formed clock, for every
`k` up to the horizon the port reports (`k = 0` included), `Skip(k)` trips no assertion, divides
by no zero, and equals `k` single `Tick`s in the final state and in the frames handed to the
audio callback (same frames, same order); those `k` ticks call the interrupt handler zero times,
as does `Skip`.  Over an infinite horizon (transmission off, or on with an empty queue — then
the frames are all-zero underrun frames) this holds for every `k` that does not wrap the 64-bit
sum `transmit_timer + k`. -/
theorem skip_eq_ticks (b : Btdmp) (hi : Inv b) (hc : Clk b) (k : Nat) (hk : k ≤ maxSkip b)
    (hov : maxSkip b = infinity → b.timer.toNat + k < 2 ^ 64) :
    skip b k = .ok ((ticksCore k b).1, (ticksCore k b).2.1) ∧ (ticksCore k b).2.2 = 0 := by
  have h := skip_core b hi hc k hk hov
  simp [skip, h.1, h.2.1, h.2.2]

/-- `skip_eq_ticks` for a finite horizon needs no overflow side condition. -/
theorem skip_eq_ticks_finite (b : Btdmp) (hi : Inv b) (hc : Clk b) (he : b.enable ≠ 0)
    (hq : b.queue ≠ []) (k : Nat) (hk : k ≤ maxSkip b) :
    skip b k = .ok ((ticksCore k b).1, (ticksCore k b).2.1) ∧ (ticksCore k b).2.2 = 0 :=
  skip_eq_ticks b hi hc k hk (fun _ => (horizon_frames b hi hc he hq k hk).2.1)

/-- **Enabled with an empty queue** (`GetMaxSkip = Infinity`): `Skip(k)` equals `k` ticks for
every `k` (short of 64-bit wrap-around), and both emit `(timer + k) / period` all-zero frames. -/
theorem skip_eq_ticks_empty_queue (b : Btdmp) (hi : Inv b) (hc : Clk b) (hq : b.queue = [])
    (k : Nat) (hov : b.timer.toNat + k < 2 ^ 64) :
    maxSkip b = infinity ∧
    skip b k = .ok ((ticksCore k b).1, (ticksCore k b).2.1) ∧ (ticksCore k b).2.2 = 0 ∧
    (b.enable ≠ 0 →
      (ticksCore k b).2.1 = List.replicate ((b.timer.toNat + k) / b.period.toNat) (0, 0)) := by
  have hm : maxSkip b = infinity := by simp [maxSkip, hq]
  have hk : k ≤ maxSkip b := by rw [hm]; unfold infinity; omega
  have h := skip_eq_ticks b hi hc k hk (fun _ => hov)
  refine ⟨hm, h.1, h.2, ?_⟩
  intro he
  rw [ticks_closed k b he hc]
  generalize (b.timer.toNat + k) / b.period.toNat = c
  have : ∀ (c : Nat) (b : Btdmp), b.queue = [] → (tickFrames c b).2.1 = List.replicate c (0, 0) := by
    intro c
    induction c with
    | zero => intro b _; rfl
    | succ c ih =>
      intro b hq
      have h1 : tickFrame b = (b, (0, 0), 0) := by rw [tickFrame_spec]; simp [hq, pad2]
      simp [tickFrames, h1, ih b hq, List.replicate_succ]
  exact this c b hq

/-- **The horizon never skips over the empty interrupt.**  Within a finite horizon (transmission
on, queue not empty) the `k` ticks raise no interrupt and the queue still holds at least one
word afterwards: the frame that empties the queue — the one that raises the interrupt — lies
strictly beyond the horizon. -/
theorem horizon_keeps_one (b : Btdmp) (hi : Inv b) (hc : Clk b) (he : b.enable ≠ 0)
    (hq : b.queue ≠ []) (k : Nat) (hk : k ≤ maxSkip b) :
    (ticksCore k b).2.2 = 0 ∧ (ticksCore k b).1.queue ≠ [] ∧
    (ticksCore k b).1.queue = b.queue.drop (2 * ((b.timer.toNat + k) / b.period.toNat)) := by
  have hf := (horizon_frames b hi hc he hq k hk).1
  have hqq : (ticksCore k b).1.queue = b.queue.drop (2 * ((b.timer.toNat + k) / b.period.toNat)) := by
    rw [ticks_closed k b he hc, setTimer_queue, tickFrames_queue]
  refine ⟨by rw [irq_count b he hc k, if_neg (by omega)], ?_, hqq⟩
  rw [hqq, Ne, List.drop_eq_nil_iff]; omega

/-- `ticks_quiet`, `last_tick_quiet`: for the system-level fast-forward (`C06Sys/Ticks.lean`); the
horizon may be infinite here. -/
theorem ticks_quiet (b : Btdmp) (hi : Inv b) (hc : Clk b) (k : Nat) (hk : k ≤ maxSkip b) :
    (ticksCore k b).2.2 = 0 := by
  by_cases he : b.enable = 0
  · rw [ticks_disabled k b he]
  · by_cases hq : b.queue = []
    · rw [irq_count b he hc k, hq]; rfl
    · exact (horizon_keeps_one b hi hc he hq k hk).1

theorem last_tick_quiet (b : Btdmp) (hi : Inv b) (hc : Clk b) (k : Nat) (hk : k + 1 ≤ maxSkip b) :
    (tick (ticksCore k b).1).2.2 = 0 := by
  have h := ticks_quiet b hi hc (k + 1) hk
  rw [ticksCore_succ_last] at h
  exact (Nat.add_eq_zero_iff.mp h).2

/-- The horizon is tight: the very next tick after a full-horizon skip is the frame that empties
the queue and raises the interrupt (a larger horizon would skip over an interrupt). -/
theorem horizon_tight (b : Btdmp) (hi : Inv b) (hc : Clk b) (he : b.enable ≠ 0) (hq : b.queue ≠ []) :
    (ticksCore (maxSkip b + 1) b).2.2 = 1 ∧ (ticksCore (maxSkip b + 1) b).1.queue = [] := by
  have hn : 0 < b.queue.length := List.length_pos_iff.mpr hq
  have ec : (b.timer.toNat + (maxSkip b + 1)) / b.period.toNat = (b.queue.length + 1) / 2 := by
    rw [← Nat.add_assoc, (maxSkip_eq b hi hc he hq).1, Nat.mul_div_cancel _ (Nat.lt_of_le_of_lt (Nat.zero_le _) hc.2)]
  rw [ticks_closed _ b he hc, ec]
  refine ⟨?_, ?_⟩
  · rw [tickFrames_irqs]; simp only [hn, true_and]; split <;> omega
  · simp only [setTimer_queue, tickFrames_queue]
    apply List.drop_eq_nil_of_le; omega

/-! ## arbitrary histories -/

/-- Everything a program (MMIO writes) or the core timing can do to the port. -/
inductive Op where
  | reset
  | send (v : U16) | flush (v : U16)
  | setEnable (v : U16) | setPeriod (v : U16) | setClock (v : U16)
  | tick | skip (k : Nat)

/-- One operation on the model, unrestricted: new state, frames emitted, interrupt-handler calls.
A `skip` that trips the assertion (or would divide by zero) aborts. -/
def apply (b : Btdmp) : Op → R (Btdmp × List Frame × Nat)
  | .reset => .ok (reset b, [], 0)
  | .send v => .ok (send b v, [], 0)
  | .flush v => .ok (setTransmitFlush b v, [], 0)
  | .setEnable v => .ok (setTransmitEnable b v, [], 0)
  | .setPeriod v => .ok (setTransmitPeriod b v, [], 0)
  | .setClock v => .ok (setTransmitClockConfig b v, [], 0)
  | .tick => .ok (tick b)
  | .skip k => (skip b k).map fun r => (r.1, r.2, 0)

/-- Flushing through the operation interface: no frame, no interrupt. -/
theorem apply_flush (b : Btdmp) (v : U16) :
    apply b (.flush v) = .ok ({ b with queue := [], empty := true, full := false }, [], 0) := rfl

/-- What the outside world sees of a history, in order: words offered by `Send`, flushes
(`SetTransmitFlush` or `Reset`), and frames handed to the audio callback. -/
inductive Ev where
  | send (w : U16)
  | flush
  | frame (f : Frame)
  deriving DecidableEq

def evs : Op → List Frame → List Ev
  | .send v, _ => [.send v]
  | .flush _, _ => [.flush]
  | .reset, _ => [.flush]
  | _, frames => frames.map .frame

/-- Run a history; the result is the final state and the observable log. -/
def run : List Op → Btdmp → R (Btdmp × List Ev)
  | [], b => .ok (b, [])
  | op :: ops, b => do
      let r ← apply b op
      let r' ← run ops r.1
      pure (r'.1, evs op r.2.1 ++ r'.2)

private theorem inv_skipFrame (b : Btdmp) (hok : skipFrameOk b = true) (h : Inv b) :
    Inv (skipFrame b).1 := by
  rcases b with ⟨cc, pe, ti, en, e, f, q⟩
  rcases q with _ | ⟨w0, _ | ⟨w1, _ | ⟨w2, q⟩⟩⟩ <;>
    simp_all [Inv, skipFrame, skipSlot, skipFrameOk, skipSlotOk]
  omega

private theorem inv_skipLoop (c : Nat) : ∀ (b : Btdmp), skipLoopOk c b = true → Inv b →
    Inv (skipLoop c b).1 := by
  induction c with
  | zero => intro b _ h; exact h
  | succ c ih =>
    intro b hok h
    simp only [skipLoopOk, Bool.and_eq_true] at hok
    exact ih _ hok.2 (inv_skipFrame b hok.1 h)

private theorem skipPre_fields (b : Btdmp) (k : Nat) :
    (skipPre b k).1.queue = b.queue ∧ (skipPre b k).1.empty = b.empty ∧
    (skipPre b k).1.full = b.full := by
  unfold skipPre; split <;> simp

private theorem skip_ok {b : Btdmp} {k : Nat} {r : Btdmp × List Frame} (h : skip b k = .ok r) :
    skipOk b k = true ∧ r = skipCore b k := by
  unfold skip at h
  split at h
  · cases h
  split at h
  · exact ⟨‹_›, (Except.ok.inj h).symm⟩
  · cases h

private theorem run_cons_ok {op : Op} {ops : List Op} {b : Btdmp} {r : Btdmp × List Ev}
    (h : run (op :: ops) b = .ok r) :
    ∃ r1 r2, apply b op = .ok r1 ∧ run ops r1.1 = .ok r2 ∧ r = (r2.1, evs op r1.2.1 ++ r2.2) := by
  obtain ⟨r1, h1, h⟩ := Except.bind_eq_ok.mp h
  obtain ⟨r2, h2, h⟩ := Except.bind_eq_ok.mp h
  exact ⟨r1, r2, h1, h2, (Except.ok.inj h).symm⟩

theorem inv_skip (b : Btdmp) (k : Nat) (h : Inv b) (r : Btdmp × List Frame)
    (hr : skip b k = .ok r) : Inv r.1 := by
  obtain ⟨hok, rfl⟩ := skip_ok hr
  unfold skipCore; unfold skipOk at hok
  split
  · exact h
  · rename_i he
    rw [if_neg he] at hok
    have hf := skipPre_fields b k
    exact inv_skipLoop _ _ hok (inv_congr hf.1 hf.2.1 hf.2.2 h)

/-- Every operation preserves the flag invariant. -/
theorem inv_apply (b : Btdmp) (h : Inv b) (op : Op) (r : Btdmp × List Frame × Nat)
    (hr : apply b op = .ok r) : Inv r.1 := by
  cases op with
  | reset => cases hr; exact inv_reset b
  | send v => cases hr; exact inv_send b v h
  | flush v => cases hr; exact inv_flush b v
  | setEnable v => cases hr; exact inv_setEnable b v h
  | setPeriod v => cases hr; exact inv_setPeriod b v h
  | setClock v => cases hr; exact inv_setClockConfig b v h
  | tick => cases Except.ok.inj hr; exact inv_tick b h
  | skip k =>
    obtain ⟨r', hs, rfl⟩ := Except.map_eq_ok.mp hr
    exact inv_skip b k h r' hs

/-- **The full/empty flags are exact, always.**  After any history of sends, flushes, resets,
enable / period / clock-config writes, ticks and skips (any period, any phase, any skip length
that does not abort), starting from any state with exact flags — in particular from `Reset` —
`transmit_empty` is set iff the queue is empty, `transmit_full` iff it holds 16 words, and it
never holds more than 16. -/
theorem flags_exact (ops : List Op) : ∀ (b : Btdmp), Inv b → ∀ r, run ops b = .ok r → Inv r.1 := by
  induction ops with
  | nil => intro b h r hr; cases hr; exact h
  | cons op ops ih =>
    intro b h r hr
    obtain ⟨r1, r2, ha, hrun, rfl⟩ := run_cons_ok hr
    exact ih _ (inv_apply b h op r1 ha) r2 hrun

theorem flags_exact_from_reset (ops : List Op) (b0 : Btdmp) (r : Btdmp × List Ev)
    (hr : run ops (reset b0) = .ok r) : Inv r.1 :=
  flags_exact ops _ (inv_reset b0) r hr

/-! ### the reference FIFO -/

/-- The reference FIFO the observable log is checked against.  `accepted` = every word taken, in
order; `gone` = every word that left the queue (played or flushed), in order; `played` = the
words handed to the audio callback, padding zeros excluded; `q` = the words still queued. -/
structure Fifo where
  accepted : List U16 := []
  gone : List U16 := []
  played : List U16 := []
  q : List U16 := []

/-- One observable event on the reference FIFO.  A `send` is taken iff fewer than 16 words are
queued, otherwise dropped.  A `frame` is legal only if it is exactly the two oldest queued words
in order with zeros for missing ones, and removes exactly those words.  A `flush` removes
exactly the queued words.  (`none` = the log is not a behaviour of a FIFO.) -/
def Fifo.step (s : Fifo) : Ev → Option Fifo
  | .send w =>
    some (if s.q.length < 16 then { s with accepted := s.accepted ++ [w], q := s.q ++ [w] } else s)
  | .flush => some { s with gone := s.gone ++ s.q, q := [] }
  | .frame f =>
    if f = pad2 s.q then
      some { s with gone := s.gone ++ s.q.take 2, played := s.played ++ s.q.take 2, q := s.q.drop 2 }
    else none

def Fifo.run : List Ev → Fifo → Option Fifo
  | [], s => some s
  | e :: es, s => (s.step e).bind (Fifo.run es)

private theorem Fifo.run_append (l1 l2 : List Ev) : ∀ (s : Fifo),
    Fifo.run (l1 ++ l2) s = (Fifo.run l1 s).bind (Fifo.run l2) := by
  induction l1 with
  | nil => intro s; rfl
  | cons e l1 ih =>
    intro s
    simp only [List.cons_append, Fifo.run]
    cases s.step e with
    | none => rfl
    | some s' => simp [ih]

private theorem Fifo.step_conservation {s s1 : Fifo} {e : Ev} (hs : s.step e = some s1) :
    (s.gone ++ s.q = s.accepted → s1.gone ++ s1.q = s1.accepted) ∧
    (e ≠ .flush → s.played = s.gone → s1.played = s1.gone) := by
  cases e with
  | send w =>
    cases hs
    refine ⟨fun h0 => ?_, fun _ h0 => ?_⟩
    · split
      · simp only [← List.append_assoc, h0]
      · exact h0
    · split <;> exact h0
  | flush => cases hs; exact ⟨fun h0 => by simpa using h0, fun h => absurd rfl h⟩
  | frame f =>
    simp only [Fifo.step] at hs
    split at hs
    · cases hs
      exact ⟨fun h0 => by simp only [List.append_assoc, List.take_append_drop]; exact h0, fun _ h0 => by simp only [h0]⟩
    · cases hs

/-- In the reference FIFO nothing is lost, duplicated or reordered, by construction:
`gone ++ q = accepted` is preserved by every event, and without a flush `played = gone`. -/
theorem Fifo.conservation (log : List Ev) : ∀ (s s' : Fifo), Fifo.run log s = some s' →
    (s.gone ++ s.q = s.accepted → s'.gone ++ s'.q = s'.accepted) ∧
    (Ev.flush ∉ log → s.played = s.gone → s'.played = s'.gone) := by
  induction log with
  | nil => intro s s' h; cases h; exact ⟨id, fun _ => id⟩
  | cons e log ih =>
    intro s s' h
    obtain ⟨s1, hs, h⟩ := Option.bind_eq_some_iff.mp h
    have h1 := Fifo.step_conservation hs
    have := ih s1 s' h
    exact ⟨this.1 ∘ h1.1, fun hn h0 => this.2 (fun hh => hn (List.mem_cons_of_mem _ hh))
      (h1.2 (fun he => hn (he ▸ List.mem_cons_self)) h0)⟩

private theorem sim_skipLoop (c : Nat) : ∀ (b : Btdmp) (s : Fifo), s.q = b.queue →
    ∃ s', Fifo.run ((skipLoop c b).2.map Ev.frame) s = some s' ∧ s'.q = (skipLoop c b).1.queue := by
  induction c with
  | zero => intro b s h; exact ⟨s, rfl, h⟩
  | succ c ih =>
    intro b s h
    have hf := skipFrame_fields b
    simp only [skipLoop, List.map_cons, Fifo.run, Fifo.step, hf.2.2.2.2.2.2, h, if_true, Option.bind]
    exact ih _ _ (by simp only [hf.1])

/-- One operation of the port is one legal move sequence of the reference FIFO. -/
private theorem sim_apply (b : Btdmp) (h : Inv b) (s : Fifo) (hq : s.q = b.queue) (op : Op)
    (r : Btdmp × List Frame × Nat) (hr : apply b op = .ok r) :
    ∃ s', Fifo.run (evs op r.2.1) s = some s' ∧ s'.q = r.1.queue := by
  cases op with
  | reset | flush v => cases hr; exact ⟨_, rfl, rfl⟩
  | send v =>
    cases hr
    refine ⟨_, rfl, ?_⟩
    simp only [send_spec b v h, hq]
    split <;> simp_all
  | setEnable v | setPeriod v | setClock v => cases hr; exact ⟨s, rfl, hq⟩
  | tick =>
    cases Except.ok.inj hr
    by_cases hd : Due b
    · have := (tick_frame b).1 hd
      simp only [evs, this.1, List.map_cons, List.map_nil, Fifo.run, Fifo.step, hq, if_true,
        Option.bind]
      exact ⟨_, rfl, this.2.1.symm⟩
    · have := (tick_frame b).2 hd
      simp only [evs, this.1, List.map_nil, Fifo.run]
      exact ⟨s, rfl, by rw [this.2.1]; exact hq⟩
  | skip k =>
    obtain ⟨r', hs, rfl⟩ := Except.map_eq_ok.mp hr
    obtain ⟨-, rfl⟩ := skip_ok hs
    simp only [evs]
    unfold skipCore
    split
    · exact ⟨s, rfl, hq⟩
    · exact sim_skipLoop _ _ s (by rw [(skipPre_fields b k).1]; exact hq)

private theorem sim_run (ops : List Op) : ∀ (b : Btdmp), Inv b → ∀ (s : Fifo), s.q = b.queue →
    ∀ r, run ops b = .ok r → ∃ s', Fifo.run r.2 s = some s' ∧ s'.q = r.1.queue := by
  induction ops with
  | nil => intro b _ s hq r hr; cases hr; exact ⟨s, rfl, hq⟩
  | cons op ops ih =>
    intro b h s hq r hr
    obtain ⟨r1, r2, ha, hrun, rfl⟩ := run_cons_ok hr
    obtain ⟨s1, hs1, hq1⟩ := sim_apply b h s hq op r1 ha
    obtain ⟨s2, hs2, hq2⟩ := ih _ (inv_apply b h op r1 ha) s1 hq1 r2 hrun
    exact ⟨s2, by simp only [Fifo.run_append, hs1, Option.bind, hs2], hq2⟩

/-- **No word is lost, duplicated or reordered.**  Take any history from `Reset` — sends,
flushes, resets, enable / period / clock-config writes, ticks and skips with any periods,
phases and queue fills — that does not abort.  Its observable log (words offered, flushes,
frames handed to the audio callback) is a behaviour of the reference FIFO: every offered word is
taken iff fewer than 16 are queued; every frame is exactly the two oldest queued words in order,
with zeros only for missing words, and removes exactly those words; a flush removes exactly the
queued words.  The port's queue is the reference queue, so

  (words that left, in order) ++ (words still queued) = (words accepted, in order),

and when the history contains no flush, the words that left are exactly the words played. -/
theorem fifo_no_loss (ops : List Op) (b0 : Btdmp) (r : Btdmp × List Ev)
    (hr : run ops (reset b0) = .ok r) :
    ∃ s : Fifo, Fifo.run r.2 {} = some s ∧ s.q = r.1.queue ∧
      s.gone ++ r.1.queue = s.accepted ∧ (Ev.flush ∉ r.2 → s.played ++ r.1.queue = s.accepted) := by
  obtain ⟨s, hs, hq⟩ := sim_run ops (reset b0) (inv_reset b0) {} rfl r hr
  have hc := Fifo.conservation r.2 {} s hs
  refine ⟨s, hs, hq, ?_, ?_⟩
  · rw [← hq]; exact hc.1 rfl
  · intro hn; rw [← hq, hc.2 hn rfl]; exact hc.1 rfl

/-! ### fast-forward inside arbitrary histories -/

/-- One operation under the fast-forward contract; `fast = true` executes `skip k` with
`Btdmp::Skip`, `fast = false` with `k` single ticks.  Outside the contract — reported as `oob`
by both variants — are: a skip beyond the horizon reported at that moment (`CoreTiming::Skip`
never asks for it), a skip over an infinite horizon that would wrap `transmit_timer + k` past
2^64, and a period write that does not keep `timer < period` (so `period = 0` is excluded too;
the facade never writes the period at all). -/
def step (fast : Bool) (b : Btdmp) : Op → R (Btdmp × List Frame × Nat)
  | .skip k =>
      if k ≤ maxSkip b ∧ (maxSkip b = infinity → b.timer.toNat + k < 2 ^ 64) then
        if fast then (skip b k).map fun r => (r.1, r.2, 0) else .ok (ticksCore k b)
      else .error .oob
  | .setPeriod v => if b.timer < v then .ok (setTransmitPeriod b v, [], 0) else .error .oob
  | op => apply b op

/-- Run a history under the contract: final state, all frames in order, total interrupts. -/
def runC (fast : Bool) : List Op → Btdmp → R (Btdmp × List Frame × Nat)
  | [], b => .ok (b, [], 0)
  | op :: ops, b => do
      let r ← step fast b op
      let r' ← runC fast ops r.1
      pure (r'.1, r.2.1 ++ r'.2.1, r.2.2 + r'.2.2)

theorem ticksCore_inv_clk (k : Nat) : ∀ (b : Btdmp), Inv b → Clk b →
    Inv (ticksCore k b).1 ∧ Clk (ticksCore k b).1 := by
  induction k with
  | zero => intro b h1 h2; exact ⟨h1, h2⟩
  | succ k ih => intro b h1 h2; exact ih _ (inv_tick b h1) (clk_tick b h2)

private theorem clk_congr {b b' : Btdmp} (hp : b'.period = b.period) (ht : b'.timer = b.timer)
    (h : Clk b) : Clk b' := by
  unfold Clk at *; rw [hp, ht]; exact h

private theorem send_clk (b : Btdmp) (v : U16) : (send b v).period = b.period ∧ (send b v).timer = b.timer := by
  unfold send; split <;> simp

private theorem step_false_inv (b : Btdmp) (hi : Inv b) (hc : Clk b) (op : Op)
    (r : Btdmp × List Frame × Nat) (hr : step false b op = .ok r) : Inv r.1 ∧ Clk r.1 := by
  cases op with
  | skip k =>
    simp only [step] at hr
    split at hr
    · cases Except.ok.inj hr; exact ticksCore_inv_clk k b hi hc
    · cases hr
  | setPeriod v =>
    simp only [step] at hr
    split at hr
    · rename_i hlt
      cases hr
      refine ⟨inv_setPeriod b v hi, ?_⟩
      unfold Clk setTransmitPeriod; simp only []
      constructor <;> bv_omega
    · cases hr
  | reset => cases hr; exact ⟨inv_reset b, by show Clk ({} : Btdmp); decide⟩
  | send v => cases hr; exact ⟨inv_send b v hi, clk_congr (send_clk b v).1 (send_clk b v).2 hc⟩
  | flush v => cases hr; exact ⟨inv_flush b v, clk_congr rfl rfl hc⟩
  | setEnable v => cases hr; exact ⟨inv_setEnable b v hi, clk_congr rfl rfl hc⟩
  | setClock v => cases hr; exact ⟨inv_setClockConfig b v hi, clk_congr rfl rfl hc⟩
  | tick => cases Except.ok.inj hr; exact ⟨inv_tick b hi, clk_tick b hc⟩

private theorem step_fast_slow (b : Btdmp) (hi : Inv b) (hc : Clk b) (op : Op) :
    step true b op = step false b op := by
  cases op with
  | skip k =>
    simp only [step]
    split
    · rename_i hk
      obtain ⟨h1, h2⟩ := skip_eq_ticks b hi hc k hk.1 hk.2
      -- the 0 interrupts `Skip` reports are what the `k` ticks raised
      rw [if_pos trivial, if_neg Bool.false_ne_true, h1, ← h2]
      rfl
    · rfl
  | _ => rfl

/-- **Fast-forward is unobservable in every history.**  Start from any state with exact flags and
a well-formed clock (e.g. after `Reset`).  Over any interleaving of sends, flushes, resets,
enable and clock-config writes, period writes that keep `timer < period`, ticks, and skips each
within the horizon reported at that moment, executing the skips with `Btdmp::Skip` or as single
ticks gives the same final state, the same frames in the same order, the same number of
interrupts and the same abort behaviour. -/
theorem run_fast_eq_slow (ops : List Op) : ∀ (b : Btdmp), Inv b → Clk b →
    runC true ops b = runC false ops b := by
  induction ops with
  | nil => intro b _ _; rfl
  | cons op ops ih =>
    intro b hi hc
    simp only [runC, step_fast_slow b hi hc op]
    refine Except.bind_congr_ok fun r h => ?_
    have hw := step_false_inv b hi hc op r h
    rw [ih r.1 hw.1 hw.2]

/-- Tick by tick nothing can abort but the contract checks themselves. -/
private theorem runC_false_err (ops : List Op) : ∀ (b : Btdmp) (e : Abort), runC false ops b = .error e → e = .oob := by
  induction ops with
  | nil => nofun
  | cons op ops ih =>
    intro b e h
    rcases Except.bind_eq_error.mp h with h | ⟨r, -, h⟩
    · cases op with
      | skip k | setPeriod v => simp only [step] at h; split at h <;> cases h; rfl
      | _ => cases h
    · rcases Except.bind_eq_error.mp h with h | ⟨_, -, h⟩
      · exact ih _ _ h
      · cases h

/-- Under the contract no skip ever aborts: a contract run fails only with `oob`, i.e. only
because the history itself left the contract. -/
theorem runC_no_assert (fast : Bool) (ops : List Op) : ∀ (b : Btdmp), Inv b → Clk b →
    runC fast ops b ≠ .error .assert ∧ runC fast ops b ≠ .error .unimpl := by
  intro b hi hc
  have : runC fast ops b = runC false ops b := by
    cases fast
    · rfl
    · exact run_fast_eq_slow ops b hi hc
  rw [this]
  exact ⟨fun h => Abort.noConfusion (runC_false_err ops b _ h), fun h => Abort.noConfusion (runC_false_err ops b _ h)⟩

/-- A history that runs under the contract with `Btdmp::Skip` is an ordinary history of the port
(same final state), so `flags_exact` and `fifo_no_loss` apply to it — and, by
`run_fast_eq_slow`, to the same history executed tick by tick. -/
theorem runC_sub_run (ops : List Op) : ∀ (b : Btdmp) (r : Btdmp × List Frame × Nat),
    runC true ops b = .ok r → ∃ log, run ops b = .ok (r.1, log) := by
  induction ops with
  | nil => intro b r h; cases h; exact ⟨[], rfl⟩
  | cons op ops ih =>
    intro b r h
    obtain ⟨r1, hs, h⟩ := Except.bind_eq_ok.mp h
    obtain ⟨r2, hr, h⟩ := Except.bind_eq_ok.mp h
    cases h
    -- inside the contract `step` is `apply`
    have ha : apply b op = .ok r1 := by
      cases op with
      | skip k => simp only [step] at hs; split at hs
                  · simpa [apply] using hs
                  · cases hs
      | setPeriod v => simp only [step] at hs; split at hs
                       · exact hs
                       · cases hs
      | _ => exact hs
    obtain ⟨log, hl⟩ := ih _ _ hr
    exact ⟨evs op r1.2.1 ++ log, by simp only [run, bind, Except.bind, ha, hl, pure, Except.pure]⟩

/-! ## the excluded points are really excluded: proved witnesses -/

/-- Outside `Clk` (here: `timer ≥ period`, reachable only by lowering the period below the
running timer with `SetTransmitPeriod`, which nothing in the facade calls) fast-forward is *not*
exact: with period 4, timer 5 and three queued words the reported horizon is 4, yet `Skip(1)`
emits nothing (it silently restarts the timer at 0) while one `Tick` emits the frame (1, 2). -/
theorem skip_ne_ticks_timer_ge_period :
    let b : Btdmp := { period := 4, timer := 5, enable := 1, empty := false, queue := [1, 2, 3] }
    Inv b ∧ ¬ Clk b ∧ 1 ≤ maxSkip b ∧
    skip b 1 = .ok ({ b with timer := 1 }, []) ∧
    ticksCore 1 b = ({ b with timer := 0, queue := [3] }, [(1, 2)], 0) := by
  decide +kernel

/-- Over an infinite horizon the 64-bit sum `transmit_timer + ticks` wraps: with transmission on,
an empty queue and timer 1, `Skip(2^64 - 1)` — a length within the reported horizon `Infinity` —
emits no frame at all and leaves the timer at 0, whereas that many ticks emit 2^52 frames.
(Not executable on the real code in any useful time; `CoreTiming::Skip` is only ever called with
the emulator's remaining cycle budget.) -/
theorem skip_wrap_counterexample :
    let b : Btdmp := { enable := 1, timer := 1 }
    Inv b ∧ Clk b ∧ infinity ≤ maxSkip b ∧
    skip b infinity = .ok ({ b with timer := 0 }, []) ∧
    (ticksCore infinity b).2.1.length = 2 ^ 52 := by
  refine ⟨by decide +kernel, by decide +kernel, by decide +kernel, by decide +kernel, ?_⟩
  rw [frame_count _ (by decide) (by decide)]
  decide

/-- Beyond the horizon `Skip` trips its assertion: one cycle past the horizon is the frame that
empties the queue. -/
theorem skip_beyond_horizon_asserts :
    let b : Btdmp := { period := 4, timer := 1, enable := 1, empty := false, queue := [1, 2, 3] }
    Inv b ∧ Clk b ∧ maxSkip b = 6 ∧ skip b 7 = .error .assert := by
  decide +kernel

/-! ## non-vacuity: concrete states meeting the hypotheses -/

example : Inv { enable := 1, period := 3, timer := 2, empty := false, queue := [7, 8, 9] } ∧
    Clk { enable := 1, period := 3, timer := 2, empty := false, queue := [7, 8, 9] } ∧
    Due { enable := 1, period := 3, timer := 2, empty := false, queue := [7, 8, 9] } ∧
    maxSkip { enable := 1, period := 3, timer := 2, empty := false, queue := [7, 8, 9] } = 3 := by
  decide +kernel
example : ticksCore 4 { enable := 1, period := 3, timer := 2, empty := false, queue := [7, 8, 9] } =
    ({ enable := 1, period := 3, timer := 0, empty := true, queue := [] }, [(7, 8), (9, 0)], 1) := by
  decide +kernel
example : Inv (reset default) ∧ Clk (reset default) := by decide +kernel
example : (run [.send 5, .send 6, .send 7, .setEnable 1, .setPeriod 2, .tick, .tick, .flush 0,
      .send 9, .skip 1, .tick] (reset default)).toOption.map (·.2) =
    some [.send 5, .send 6, .send 7, .frame (5, 6), .flush, .send 9, .frame (9, 0)] := by decide +kernel
example : runC true [.send 5, .send 6, .send 7, .setEnable 1, .skip 4096, .tick] (reset default) =
    .ok ({ enable := 1, timer := 1, empty := false, queue := [7] }, [(5, 6)], 0) := by decide +kernel

end Teakra.Btdmp
