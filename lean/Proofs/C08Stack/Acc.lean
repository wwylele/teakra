import Proofs.C08Stack.Pusha
import Proofs.C08Stack.PushPop
/-!
# C08 — `push` / `pop` of accumulator parts through the `Register` operand

`RegToBus16(axl|axh|bxl|bxh, enable_sat_for_mov = true)` reads the part *after `GetAndSatAcc`*
(saturated unless `sat ≠ 0`); `RegToBus16(ax)` reads the low word without saturation.
`RegFromBus16` of any of them is `SatAndSetAccAndFlag(reg, value')` where `value'` is the word
zero-extended (`…l`), shifted to bits 16..31 and sign-extended (`…h`), or sign-extended from bit 15
(`ax`): **the whole accumulator is replaced**, not only the part, and `fz fm fe fn` are recomputed.
The values written always fit 32 bits, so the saturation of `SatAndSetAccAndFlag` (`sata`) never
triggers on this path.
-/
namespace Teakra
open Teakra Exec ExecLemmas Interp Sys RegName

inductive AccPart where | low | high | full
  deriving DecidableEq, Repr

/-- The accumulator names of the `Register` operand (and `b0`, `b1`, reachable through `pop_Bx`). -/
def accPartOf : RegName → Option (AccPart × Bool × Fin 2)
  | a0l => some (.low, false, 0) | a1l => some (.low, false, 1)
  | b0l => some (.low, true, 0) | b1l => some (.low, true, 1)
  | a0h => some (.high, false, 0) | a1h => some (.high, false, 1)
  | b0h => some (.high, true, 0) | b1h => some (.high, true, 1)
  | a0 => some (.full, false, 0) | a1 => some (.full, false, 1)
  | b0 => some (.full, true, 0) | b1 => some (.full, true, 1)
  | _ => none

/-- The 16 bits `RegToBus16` takes from the (possibly saturated) accumulator value. -/
def readPart : AccPart → U64 → U16
  | .low, v => (v &&& 0xFFFF).setWidth 16
  | .high, v => ((v >>> 16) &&& 0xFFFF).setWidth 16
  | .full, v => (v &&& 0xFFFF).setWidth 16

/-- The 64-bit value `RegFromBus16` hands to `SatAndSetAccAndFlag`. -/
def busToAcc : AccPart → U16 → U64
  | .low, w => w.setWidth 64
  | .high, w => Alu.signExtend 32 (((w.setWidth 32 : U32) <<< 16).signExtend 64)
  | .full, w => Alu.signExtend 16 (w.setWidth 64)

theorem busToAcc_fits (k : AccPart) (w : U16) : busToAcc k w = Alu.signExtend 32 (busToAcc k w) := by
  cases k <;> simp only [busToAcc, Alu.signExtend] <;>
  · apply BitVec.eq_of_getLsbD_eq
    intro i hi
    simp only [BitVec.getLsbD_signExtend, BitVec.getLsbD_setWidth, BitVec.msb_eq_getLsbD_last,
      BitVec.getLsbD_shiftLeft]
    by_cases h32 : i < 32 <;> by_cases h16 : i < 16 <;> simp [hi, h32, h16]
    all_goals first | omega | exact BitVec.getLsbD_of_ge _ _ (by omega)

theorem readPart_busToAcc (k : AccPart) (w : U16) : readPart k (busToAcc k w) = w := by
  cases k <;> simp only [busToAcc, readPart, Alu.signExtend] <;>
  · apply BitVec.eq_of_getLsbD_eq
    intro i hi
    simp only [BitVec.getLsbD_signExtend, BitVec.getLsbD_setWidth, BitVec.msb_eq_getLsbD_last,
      BitVec.getLsbD_shiftLeft, and_mask16_bit64, BitVec.getLsbD_ushiftRight]
    simp [hi, show i < 32 by omega, show i < 64 by omega, show 16 + i < 32 by omega, show 16 + i < 64 by omega]

/-- What `RegToBus16(reg, true)` reads: the saturating read for the parts, the plain read for the
whole accumulator. -/
def partRead (k : AccPart) (r : Regs) (acc : U64) : U64 × Regs :=
  match k with
  | .full => (acc, r)
  | _ => satRead r acc

theorem regToBus16_part (n : RegName) (k : AccPart) (isB : Bool) (i : Fin 2)
    (h : accPartOf n = some (k, isB, i)) (c : Core) :
    (regToBus16 n true).run c =
      .ok (readPart k (partRead k c.regs (accOf c.regs isB i)).1,
           { c with regs := (partRead k c.regs (accOf c.regs isB i)).2 }) := by
  cases n <;> cases h <;>
    first
    | exact (run_bind _ _ c).trans (by rw [getAndSatAcc_run _ _ _ rfl]; rfl)
    | exact (run_bind _ _ c).trans (by rw [getAcc_run' _ _ _ rfl]; rfl)

theorem satAndSetAccAndFlag_run_fits (n : RegName) (isB : Bool) (i : Fin 2)
    (hn : accIndex n = some (isB, i)) (v : U64) (hfit : v = Alu.signExtend 32 v) (c : Core) :
    (satAndSetAccAndFlag n v).run c = .ok ((), { c with regs := setAccAndFlagPure isB i v c.regs }) := by
  rw [Interp.run_satAndSetAccAndFlag n _ hn, Interp.satSetRegs_fits _ _ v (by rw [← hfit]; simp),
    setAccAndFlagPure_eq]

theorem regFromBus16_part (n : RegName) (k : AccPart) (isB : Bool) (i : Fin 2)
    (h : accPartOf n = some (k, isB, i)) (w : U16) (c : Core) :
    (regFromBus16 n w).run c =
      .ok ((), { c with regs := setAccAndFlagPure isB i (busToAcc k w) c.regs }) := by
  have key := fun hn => satAndSetAccAndFlag_run_fits n isB i hn (busToAcc k w) (busToAcc_fits k w) c
  cases n <;> cases h <;> exact key rfl

theorem partRead_sp (k : AccPart) (r : Regs) (acc : U64) : (partRead k r acc).2.sp = r.sp := by
  cases k <;> first | rfl | exact satRead_sp r acc

theorem partRead_of_satRead {k : AccPart} {r : Regs} {acc : U64} (h : satRead r acc = (acc, r)) :
    partRead k r acc = (acc, r) := by
  cases k <;> first | rfl | exact h

/-- **`push part ; pop part`, closed form** (`Register` operand `a` naming `axl`, `axh`, `bxl`,
`bxh` or `ax`).  Let `(v, r₁)` be the saturating read (`GetAndSatAcc`; for `ax` the plain read) and
`w` the part of `v`.  After the pair: the accumulator is `busToAcc part w` — *only the part
survives*: for `…l` the high word and the extension are cleared, for `…h` the low word is cleared
and the extension is the sign of bit 31, for `ax` everything above bit 15 is the sign of bit 15 —,
`fz fm fe fn` are the flags of that value, `sp` and all other registers are as in `r₁`. -/
theorem push_pop_acc_part (a : Nat) (k : AccPart) (isB : Bool) (i : Fin 2)
    (h : accPartOf (Register.name a) = some (k, isB, i)) (c : Core) (conv : U32)
    (ho : OrdinaryAt c.bus (c.regs.sp - 1) conv) :
    (do Exec.push_Register a; Exec.pop_Register a : Exec Unit).run c =
      .ok ((),
        { afterPushPop { c with regs := (partRead k c.regs (accOf c.regs isB i)).2 } conv
            (readPart k (partRead k c.regs (accOf c.regs isB i)).1) with
          regs := setAccAndFlagPure isB i
            (busToAcc k (readPart k (partRead k c.regs (accOf c.regs isB i)).1))
            (partRead k c.regs (accOf c.regs isB i)).2 }) := by
  have hsp := partRead_sp k c.regs (accOf c.regs isB i)
  have ho' := ho.setRegs hsp
  exact push_pop_of (regToBus16 (Register.name a) true) (regFromBus16 (Register.name a)) c _ _ conv
    (fun w r => setAccAndFlagPure isB i (busToAcc k w) r)
    (regToBus16_part _ k isB i h c) (fun w c' => regFromBus16_part _ k isB i h w c') ho'

/-- **With saturation on moves disabled (`sat ≠ 0`) the part and `sp` are restored**: reading the
same part again gives the word that was pushed, which is the part of the original accumulator. -/
theorem push_pop_acc_part_value (a : Nat) (k : AccPart) (isB : Bool) (i : Fin 2)
    (h : accPartOf (Register.name a) = some (k, isB, i)) (c : Core) (conv : U32)
    (ho : OrdinaryAt c.bus (c.regs.sp - 1) conv) (hsat : c.regs.sat ≠ 0) :
    ∃ c', (do Exec.push_Register a; Exec.pop_Register a : Exec Unit).run c = .ok ((), c') ∧
      readPart k (accOf c'.regs isB i) = readPart k (accOf c.regs isB i) ∧
      c'.regs.sp = c.regs.sp ∧
      c'.regs = setAccAndFlagPure isB i (busToAcc k (readPart k (accOf c.regs isB i))) c.regs := by
  have key := push_pop_acc_part a k isB i h c conv ho
  rw [partRead_of_satRead (satRead_off _ _ hsat)] at key
  refine ⟨_, key, ?_, ?_, rfl⟩
  · exact (congrArg (readPart k) (accOf_setAccAndFlagPure _ _ _ _)).trans (readPart_busToAcc _ _)
  · cases isB <;> rfl

/-- The registers `pop` of an accumulator part changes: the accumulator and the four value flags;
nothing else. -/
theorem setAccAndFlagPure_frame (isB : Bool) (i : Fin 2) (v : U64) (r : Regs) :
    setAccOf (withAccFlags (setAccAndFlagPure isB i v r) (accOf r isB i)) isB i (accOf r isB i) =
      withAccFlags r (accOf r isB i) := by
  cases isB <;>
    simp only [setAccAndFlagPure, withAccFlags, setAccOf, accOf, Bool.false_eq_true, if_false, if_true,
      Fin.getElem_fin, Vector.set_set, Vector.set_getElem_self]

/-- **The whole accumulator is restored** exactly when it already has the shape `pop` produces
(`acc = busToAcc part (part of acc)`: for `…l`, `acc < 0x10000`; for `…h`, low word zero and
extension the sign of bit 31); then only the flags change. -/
theorem push_pop_acc_part_restores (a : Nat) (k : AccPart) (isB : Bool) (i : Fin 2)
    (h : accPartOf (Register.name a) = some (k, isB, i)) (c : Core) (conv : U32)
    (ho : OrdinaryAt c.bus (c.regs.sp - 1) conv)
    (hshape : busToAcc k (readPart k (accOf c.regs isB i)) = accOf c.regs isB i) :
    (do Exec.push_Register a; Exec.pop_Register a : Exec Unit).run c =
      .ok ((), { afterPushPop c conv (readPart k (accOf c.regs isB i)) with
                 regs := withAccFlags c.regs (accOf c.regs isB i) }) := by
  have hfit : accOf c.regs isB i = Alu.signExtend 32 (accOf c.regs isB i) := by
    rw [← hshape]; exact busToAcc_fits _ _
  rw [push_pop_acc_part a k isB i h c conv ho, partRead_of_satRead (satRead_fits _ _ hfit), hshape,
    setAccAndFlagPure_self]

theorem acc_operands :
    (List.range 32).filter (fun a => (accPartOf (Register.name a)).isSome) =
      [16, 17, 18, 19, 24, 25, 26, 27, 28, 29] := by decide +kernel

/-- Negative witnesses.
(1) `push a0l ; pop a0l` with `a0 = 0x1234_5678`, saturation disabled: `a0l` is restored but the
accumulator becomes `0x5678` — the high word is lost.
(2) With saturation enabled (`sat = 0`) and `a0 = 0x01_0000_0001` the word pushed for `a0l` is
`0xFFFF`, not `0x0001`: the part is not restored (hence "with saturation disabled"). -/
theorem push_pop_acc_part_counterexample :
    busToAcc .low (readPart .low (0x12345678 : U64)) = 0x5678 ∧
    (let r : Regs := { a := #v[0x100000001, 0], sat := 0 }
     readPart .low (partRead .low r (accOf r false 0)).1 = 0xFFFF ∧ readPart .low (accOf r false 0) = 1) := by
  decide +kernel

/-! ## `pop bx` (operand `Bx`, used as the pop of `push b0|b1` pushed through other forms) -/

theorem pop_Bx_run (j : Fin 2) (w : U16) (c : Core) :
    (regFromBus16 (Bx.name j.val) w).run c =
      .ok ((), { c with regs := setAccAndFlagPure true j (busToAcc .full w) c.regs }) := by
  rcases fin2_cases j with rfl | rfl
  · exact regFromBus16_part b0 .full true 0 rfl w c
  · exact regFromBus16_part b1 .full true 1 rfl w c

end Teakra
