import Proofs.C08Stack.Call
import Proofs.C07.Reti
/-!
# C08 — every call form followed by every return form

Call forms of the model (`TeakraModel/Exec/Control.lean`): `call addr18, cond`, `calla axl`,
`calla ax`, `callr rel7, cond`.  Return forms: `ret cond`, `rets imm8`, `reti cond`, `retic cond`
(`retd`, `retid`, `retidc` are `UNIMPLEMENTED`/`UNREACHABLE` in the C++ and abort in the model).

Each call is `PushPC` followed by an assignment of `pc`; `pc` at that point is what the loop body
left after the fetch(es), i.e. the address of the instruction after the call
(`Proofs/C08Stack/Cycle.lean`).
-/
namespace Teakra
open Teakra Exec ExecLemmas Interp Sys

theorem condVal_sp_pc (cv : CondValue) (r : Regs) (sp : U16) (pc : U32) :
    condVal cv ({ r with sp := sp, pc := pc } : Regs) = condVal cv r :=
  condVal_congr cv rfl

theorem condVal_sp (cv : CondValue) (r : Regs) (sp : U16) :
    condVal cv ({ r with sp := sp } : Regs) = condVal cv r :=
  condVal_congr cv rfl

theorem condVal_pc (cv : CondValue) (r : Regs) (pc : U32) :
    condVal cv ({ r with pc := pc } : Regs) = condVal cv r :=
  condVal_congr cv rfl

/-! ## closed forms of the call handlers -/

theorem address18_lt (lo hi : Nat) : (address18 lo hi).toNat < 0x40000 := by
  unfold address18
  simp
  omega

def callTo (target : U32) (c : Core) : Except Stop (Unit × Core) :=
  pushPC.run c >>= fun x => .ok ((), { x.2 with regs := { x.2.regs with pc := target } })

theorem callTo_of_pushPC (K : Exec Unit) (target : U32) (c : Core)
    (hK : ∀ c2 : Core, c2.regs = { c.regs with sp := c.regs.sp - 2 } →
      K.run c2 = .ok ((), { c2 with regs := { c2.regs with pc := target } })) :
    (do pushPC; K : Exec Unit).run c = callTo target c := by
  unfold callTo
  rw [run_bind, pushPC_run, bind_assoc, bind_assoc]
  refine congrArg (_ >>= ·) (funext fun c1 => ?_)
  rw [bind_assoc, bind_assoc]
  refine congrArg (_ >>= ·) (funext fun c2 => ?_)
  exact hK _ rfl

theorem call_run (lo hi cond : Nat) (c : Core) :
    (Exec.call_Address18_16_Address18_2_Cond lo hi cond).run c =
      if condVal (Cond.name cond) c.regs = true then callTo (address18 lo hi) c else .ok ((), c) := by
  unfold Exec.call_Address18_16_Address18_2_Cond callTo
  rw [run_ifCond]
  simp only [run_bind, run_setPC, address18_lt, if_true]

/-- `callr rel7, cond`: the target is relative to the `pc` after the fetch; plain `u32` addition,
no `SetPC`. -/
theorem callr_run (addr cond : Nat) (c : Core) :
    (Exec.callr_RelAddr7_Cond addr cond).run c =
      if condVal (Cond.name cond) c.regs = true then callTo (c.regs.pc + relAddr7 addr) c
      else .ok ((), c) := by
  unfold Exec.callr_RelAddr7_Cond
  rw [run_ifCond, callTo_of_pushPC _ _ c fun c2 h => by rw [run_modifyRegs, h]]

theorem regToBus16_axl_run (i : Fin 2) (c : Core) :
    (regToBus16 (Axl.name i.val)).run c = .ok (((c.regs.a[i] &&& 0xFFFF).setWidth 16 : U16), c) := by
  rcases fin2_cases i with rfl | rfl <;> rfl

theorem getAcc_ax_run (i : Fin 2) (c : Core) :
    (getAcc (Ax.name i.val)).run c = .ok (c.regs.a[i], c) := by
  rcases fin2_cases i with rfl | rfl <;> rfl

theorem getAcc_bx_run (i : Fin 2) (c : Core) :
    (getAcc (Bx.name i.val)).run c = .ok (c.regs.b[i], c) := by
  rcases fin2_cases i with rfl | rfl <;> rfl

/-- `calla axl`: the target is the low word of the accumulator (no saturation on this path). -/
theorem calla_Axl_run (i : Fin 2) (c : Core) :
    (Exec.calla_Axl i.val).run c =
      callTo (((c.regs.a[i] &&& 0xFFFF).setWidth 16 : U16).setWidth 32) c := by
  have hlt : ∀ v : U16, ((v.setWidth 32 : U32).toNat < 0x40000) := by
    intro v; simp; omega
  exact callTo_of_pushPC _ _ c fun c2 h => by
    rw [run_bind, regToBus16_axl_run, except_ok_bind, run_setPC, if_pos (hlt _), h]

private theorem and18_lt (v : U64) : ((v &&& 0x3FFFF).setWidth 32 : U32).toNat < 0x40000 := by
  rw [BitVec.toNat_setWidth, BitVec.toNat_and]
  exact Nat.lt_of_le_of_lt (Nat.mod_le _ _) (Nat.lt_succ_of_le Nat.and_le_right)

theorem calla_Ax_run (i : Fin 2) (c : Core) :
    (Exec.calla_Ax i.val).run c = callTo ((c.regs.a[i] &&& 0x3FFFF).setWidth 32) c :=
  callTo_of_pushPC _ _ c fun c2 h => by
    rw [run_bind, getAcc_ax_run, except_ok_bind, run_setPC, if_pos (and18_lt _), h]

/-! ## the state after a call -/

def calledAt (c : Core) (a1 a2 : U32) (target : U32) : Core :=
  { pushedPC c a1 a2 with regs := { c.regs with sp := c.regs.sp - 2, pc := target } }

theorem callTo_ordinary (c : Core) (a1 a2 target : U32)
    (h1 : OrdinaryAt c.bus (c.regs.sp - 1) a1) (h2 : OrdinaryAt c.bus (c.regs.sp - 2) a2) :
    callTo target c = .ok ((), calledAt c a1 a2 target) := by
  unfold callTo
  rw [pushPC_ordinary c a1 a2 h1 h2]
  rfl

/-- **After a call** the top of the stack is the frame of the `pc` the handler was entered with
(the address of the instruction after the call), pushed from the caller's `sp`; `pc` is the target,
`sp` has decreased by 2 and no other register has changed. -/
theorem calledAt_frame (c : Core) (a1 a2 target : U32)
    (h1 : OrdinaryAt c.bus (c.regs.sp - 1) a1) (h2 : OrdinaryAt c.bus (c.regs.sp - 2) a2) :
    ReturnFrame (calledAt c a1 a2 target) c.regs.sp c.regs.pc a1 a2 ∧
    (calledAt c a1 a2 target).regs = { c.regs with sp := c.regs.sp - 2, pc := target } :=
  ⟨(pushPC_frame c a1 a2 h1 h2).setRegs _ rfl rfl, rfl⟩

/-! ## closed forms of the return handlers on a frame -/

theorem ret_run (cond : Nat) (c : Core) :
    (Exec.ret_Cond cond).run c =
      if condVal (Cond.name cond) c.regs = true then popPC.run c else .ok ((), c) := by
  unfold Exec.ret_Cond
  rw [run_ifCond]

theorem rets_run (a : Nat) (c : Core) :
    (Exec.rets_Imm8 a).run c =
      (popPC.run c >>= fun x => .ok ((), { x.2 with regs := { x.2.regs with sp := x.2.regs.sp + imm16 a } })) := by
  unfold Exec.rets_Imm8
  rw [run_bind]
  rfl

theorem ret_frame (cond : Nat) (c : Core) (sp : U16) (pc a1 a2 : U32) (h : ReturnFrame c sp pc a1 a2)
    (hpc : pc.toNat < 0x40000) (hc : condVal (Cond.name cond) c.regs = true) :
    (Exec.ret_Cond cond).run c = .ok ((), poppedPC c sp pc a1 a2) := by
  rw [ret_run, if_pos hc, popPC_frame c sp pc a1 a2 h hpc]

/-- `sp += imm8` after the pop: the callee removes its stack arguments. -/
theorem rets_frame (a : Nat) (c : Core) (sp : U16) (pc a1 a2 : U32) (h : ReturnFrame c sp pc a1 a2)
    (hpc : pc.toNat < 0x40000) :
    (Exec.rets_Imm8 a).run c =
      .ok ((), { poppedPC c sp pc a1 a2 with regs := { c.regs with sp := sp + imm16 a, pc := pc } }) := by
  rw [rets_run, popPC_frame c sp pc a1 a2 h hpc]
  rfl

theorem retiIf_frame (ctx : Bool) (cond : Nat) (c : Core) (sp : U16) (pc a1 a2 : U32)
    (h : ReturnFrame c sp pc a1 a2) (hpc : pc.toNat < 0x40000) (hc : condVal (Cond.name cond) c.regs = true) :
    (if ctx then Exec.retic_Cond cond else Exec.reti_Cond cond).run c =
      .ok ((), { poppedPC c sp pc a1 a2 with
                 regs := restoreIf ctx { c.regs with sp := sp, pc := pc, ie := 1 } }) := by
  rw [retiIf_run, if_pos hc, popPC_frame c sp pc a1 a2 h hpc]
  rfl

/-! ## failing conditions -/

/-- A call whose condition fails changes nothing at all (no push, no jump, no access). -/
theorem call_cond_false (lo hi cond : Nat) (c : Core) (h : condVal (Cond.name cond) c.regs = false) :
    (Exec.call_Address18_16_Address18_2_Cond lo hi cond).run c = .ok ((), c) := by
  rw [call_run, h]; rfl

theorem callr_cond_false (addr cond : Nat) (c : Core) (h : condVal (Cond.name cond) c.regs = false) :
    (Exec.callr_RelAddr7_Cond addr cond).run c = .ok ((), c) := by
  rw [callr_run, h]; rfl

/-- A return whose condition fails changes nothing at all. -/
theorem ret_cond_false (cond : Nat) (c : Core) (h : condVal (Cond.name cond) c.regs = false) :
    (Exec.ret_Cond cond).run c = .ok ((), c) := by
  rw [ret_run, h]; rfl

theorem reti_cond_false (cond : Nat) (c : Core) (h : condVal (Cond.name cond) c.regs = false) :
    (Exec.reti_Cond cond).run c = .ok ((), c) ∧ (Exec.retic_Cond cond).run c = .ok ((), c) := by
  rw [reti_run, retic_run, h]; exact ⟨rfl, rfl⟩

/-! ## call ; return -/

/-- The call forms of the model, as data (for one statement covering all of them). -/
inductive CallForm where
  | call (lo hi cond : Nat)
  | callr (addr cond : Nat)
  | callaAxl (i : Fin 2)
  | callaAx (i : Fin 2)

def CallForm.exec : CallForm → Exec Unit
  | .call lo hi cond => Exec.call_Address18_16_Address18_2_Cond lo hi cond
  | .callr addr cond => Exec.callr_RelAddr7_Cond addr cond
  | .callaAxl i => Exec.calla_Axl i.val
  | .callaAx i => Exec.calla_Ax i.val

def CallForm.taken (f : CallForm) (r : Regs) : Bool :=
  match f with
  | .call _ _ cond => condVal (Cond.name cond) r
  | .callr _ cond => condVal (Cond.name cond) r
  | _ => true

def CallForm.target (f : CallForm) (r : Regs) : U32 :=
  match f with
  | .call lo hi _ => address18 lo hi
  | .callr addr _ => r.pc + relAddr7 addr
  | .callaAxl i => ((r.a[i] &&& 0xFFFF).setWidth 16 : U16).setWidth 32
  | .callaAx i => (r.a[i] &&& 0x3FFFF).setWidth 32

theorem CallForm.run (f : CallForm) (c : Core) :
    f.exec.run c = if f.taken c.regs = true then callTo (f.target c.regs) c else .ok ((), c) := by
  cases f with
  | call lo hi cond => exact call_run lo hi cond c
  | callr addr cond => exact callr_run addr cond c
  | callaAxl i => simp only [CallForm.exec, CallForm.taken, CallForm.target, if_true]; exact calla_Axl_run i c
  | callaAx i => simp only [CallForm.exec, CallForm.taken, CallForm.target, if_true]; exact calla_Ax_run i c

theorem CallForm.run_taken (f : CallForm) (c : Core) (a1 a2 : U32)
    (h1 : OrdinaryAt c.bus (c.regs.sp - 1) a1) (h2 : OrdinaryAt c.bus (c.regs.sp - 2) a2)
    (ht : f.taken c.regs = true) :
    f.exec.run c = .ok ((), calledAt c a1 a2 (f.target c.regs)) := by
  rw [f.run, if_pos ht, callTo_ordinary c a1 a2 _ h1 h2]

theorem CallForm.run_not_taken (f : CallForm) (c : Core) (ht : f.taken c.regs = false) :
    f.exec.run c = .ok ((), c) := by
  rw [f.run, ht]; rfl

/-- **Call, then the matching return, for every call form.**  With the two stack slots below `sp`
in ordinary memory, the call taken, the return's condition true and `pc < 0x40000` (`SetPC`'s
`ASSERT`): `call ; ret` ends with the *whole register file as it was when the call handler was
entered* — in particular `pc` is the address the loop body had advanced to, i.e. the instruction
after the call, and `sp` is restored — for both values of `cpc`.  Memory differs only in the two
stack slots; four accesses are logged. -/
theorem call_ret_roundtrip (f : CallForm) (rcond : Nat) (c : Core) (a1 a2 : U32)
    (h1 : OrdinaryAt c.bus (c.regs.sp - 1) a1) (h2 : OrdinaryAt c.bus (c.regs.sp - 2) a2)
    (hpc : c.regs.pc.toNat < 0x40000) (ht : f.taken c.regs = true)
    (hr : condVal (Cond.name rcond) c.regs = true) :
    (do f.exec; Exec.ret_Cond rcond : Exec Unit).run c = .ok ((), afterPushPopPC c a1 a2) := by
  rw [run_bind, f.run_taken c a1 a2 h1 h2 ht]
  simp only [except_ok_bind]
  rw [ret_frame rcond _ _ _ _ _ (calledAt_frame c a1 a2 _ h1 h2).1 hpc
    (by rw [(calledAt_frame c a1 a2 _ h1 h2).2, condVal_sp_pc]; exact hr)]
  rfl

/-- The instance the property names. -/
theorem call_ret_roundtrip_addr18 (lo hi cond rcond : Nat) (c : Core) (a1 a2 : U32)
    (h1 : OrdinaryAt c.bus (c.regs.sp - 1) a1) (h2 : OrdinaryAt c.bus (c.regs.sp - 2) a2)
    (hpc : c.regs.pc.toNat < 0x40000) (ht : condVal (Cond.name cond) c.regs = true)
    (hr : condVal (Cond.name rcond) c.regs = true) :
    (do Exec.call_Address18_16_Address18_2_Cond lo hi cond; Exec.ret_Cond rcond : Exec Unit).run c =
      .ok ((), afterPushPopPC c a1 a2) :=
  call_ret_roundtrip (.call lo hi cond) rcond c a1 a2 h1 h2 hpc ht hr

/-- **Call, then `rets imm8`**: registers as at the call except `sp = sp + imm8`. -/
theorem call_rets_roundtrip (f : CallForm) (a : Nat) (c : Core) (a1 a2 : U32)
    (h1 : OrdinaryAt c.bus (c.regs.sp - 1) a1) (h2 : OrdinaryAt c.bus (c.regs.sp - 2) a2)
    (hpc : c.regs.pc.toNat < 0x40000) (ht : f.taken c.regs = true) :
    (do f.exec; Exec.rets_Imm8 a : Exec Unit).run c =
      .ok ((), { afterPushPopPC c a1 a2 with regs := { c.regs with sp := c.regs.sp + imm16 a } }) := by
  rw [run_bind, f.run_taken c a1 a2 h1 h2 ht]
  simp only [except_ok_bind]
  rw [rets_frame a _ _ _ _ _ (calledAt_frame c a1 a2 _ h1 h2).1 hpc]
  rfl

/-- **Call, then `reti`**: registers as at the call except `ie = 1`. -/
theorem call_reti_roundtrip (f : CallForm) (rcond : Nat) (c : Core) (a1 a2 : U32)
    (h1 : OrdinaryAt c.bus (c.regs.sp - 1) a1) (h2 : OrdinaryAt c.bus (c.regs.sp - 2) a2)
    (hpc : c.regs.pc.toNat < 0x40000) (ht : f.taken c.regs = true)
    (hr : condVal (Cond.name rcond) c.regs = true) :
    (do f.exec; Exec.reti_Cond rcond : Exec Unit).run c =
      .ok ((), { afterPushPopPC c a1 a2 with regs := { c.regs with ie := 1 } }) := by
  rw [run_bind, f.run_taken c a1 a2 h1 h2 ht]
  simp only [except_ok_bind]
  exact (retiIf_frame false rcond _ _ _ _ _ (calledAt_frame c a1 a2 _ h1 h2).1 hpc
    (by rw [(calledAt_frame c a1 a2 _ h1 h2).2, condVal_sp_pc]; exact hr)).trans rfl

/-- **Call, any callee, return.**  If the callee body `body` (any program), started in the state
after the call, ends in a state whose `sp`, `cpc`, MIU registers and the two stack words are those
it started with, and the return's condition holds there, then `ret` resumes at the instruction
after the call with the caller's `sp`, every other register as the callee left it. -/
theorem call_body_ret (f : CallForm) (body : Exec Unit) (rcond : Nat) (c c2 : Core) (a1 a2 : U32)
    (h1 : OrdinaryAt c.bus (c.regs.sp - 1) a1) (h2 : OrdinaryAt c.bus (c.regs.sp - 2) a2)
    (hpc : c.regs.pc.toNat < 0x40000) (ht : f.taken c.regs = true)
    (hbody : body.run (calledAt c a1 a2 (f.target c.regs)) = .ok ((), c2))
    (hsp : c2.regs.sp = c.regs.sp - 2) (hcpc : c2.regs.cpc = c.regs.cpc)
    (hmiu : c2.bus.miu = c.bus.miu)
    (hw1 : c2.bus.mem.read (stackCell a1) = (pcWords c.regs).1)
    (hw2 : c2.bus.mem.read (stackCell a2) = (pcWords c.regs).2)
    (hr : condVal (Cond.name rcond) c2.regs = true) :
    (do f.exec; body; Exec.ret_Cond rcond : Exec Unit).run c =
      .ok ((), poppedPC c2 c.regs.sp c.regs.pc a1 a2) := by
  rw [run_bind, f.run_taken c a1 a2 h1 h2 ht]
  simp only [except_ok_bind]
  rw [run_bind, hbody]
  simp only [except_ok_bind]
  have fr := (calledAt_frame c a1 a2 (f.target c.regs) h1 h2).1
  have fr2 : ReturnFrame c2 c.regs.sp c.regs.pc a1 a2 :=
    fr.of_eq hsp hcpc hmiu (hw1.trans (fr.word1.trans rfl).symm) (hw2.trans (fr.word2.trans rfl).symm)
  exact ret_frame rcond c2 _ _ _ _ fr2 hpc hr

end Teakra
