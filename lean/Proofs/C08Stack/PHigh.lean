import Proofs.C08Stack.PushPop
import Proofs.Lemmas.Bits
/-!
# C08 — `push p ; pop p` (the `Register` operand `p`: high word of the product `p0`)

`RegToBus16(p)` reads bits 16..31 of `ProductToBus40(p0)` (after the product shifter);
`RegFromBus16(p)` writes the high word of `p[0]` and sets `pe[0]` to the word's sign bit.
-/
namespace Teakra
open Teakra Exec ExecLemmas Interp Sys RegName

def pHighBus (r : Regs) : U16 := (((Alu.productToBus40 r.p[0] r.pe[0] r.ps[0]) >>> 16) &&& 0xFFFF).setWidth 16

def pHighSet (w : U16) (r : Regs) : Regs :=
  { r with pe := r.pe.set 0 (Alu.b2u (w.toNat > 0x7FFF)),
           p := r.p.set 0 ((r.p[0] &&& 0xFFFF) ||| ((w.setWidth 32 : U32) <<< 16)) }

theorem regToBus16_p (sat : Bool) (c : Core) : (regToBus16 p sat).run c = .ok (pHighBus c.regs, c) := rfl
theorem regFromBus16_p (w : U16) (c : Core) :
    (regFromBus16 p w).run c = .ok ((), { c with regs := pHighSet w c.regs }) := rfl

/-- **`push p ; pop p`, closed form.** -/
theorem push_pop_p (c : Core) (conv : U32) (ho : OrdinaryAt c.bus (c.regs.sp - 1) conv) :
    (do Exec.push_Register 11; Exec.pop_Register 11 : Exec Unit).run c =
      .ok ((), { afterPushPop c conv (pHighBus c.regs) with regs := pHighSet (pHighBus c.regs) c.regs }) :=
  push_pop_of (regToBus16 p true) (regFromBus16 p) c c _ conv pHighSet (regToBus16_p true c)
    (fun w c' => regFromBus16_p w c') ho

private theorem and_mask16_bit32 (x : U32) (i : Nat) : (x &&& 0xFFFF).getLsbD i = (x.getLsbD i && decide (i < 16)) :=
  getLsbD_and_lowMask 16 x i

private theorem and_mask16_bit32' (x : U32) (i : Nat) :
    (x &&& ((65535 : Nat) : U32)).getLsbD i = (x.getLsbD i && decide (i < 16)) :=
  getLsbD_and_lowMask 16 x i

theorem productToBus40_high_noshift (p : U32) (pe : U16) :
    ((((Alu.productToBus40 p pe 0) >>> 16) &&& 0xFFFF).setWidth 16 : U16) = (p >>> 16).setWidth 16 := by
  unfold Alu.productToBus40 Alu.signExtend
  apply BitVec.eq_of_getLsbD_eq
  intro i hi
  simp only [beq_self_eq_true, if_true, BitVec.getLsbD_setWidth, and_mask16_bit64, BitVec.getLsbD_ushiftRight,
    BitVec.getLsbD_signExtend, BitVec.getLsbD_or, BitVec.getLsbD_shiftLeft]
  simp [hi, show 16 + i < 33 by omega, show 16 + i < 64 by omega, show 16 + i < 32 by omega]

theorem p_high_back (x : U32) :
    (x &&& 0xFFFF) ||| ((((x >>> 16).setWidth 16 : U16).setWidth 32 : U32) <<< 16) = x := by
  apply BitVec.eq_of_getLsbD_eq
  intro i hi
  simp only [BitVec.getLsbD_or, and_mask16_bit32', BitVec.getLsbD_shiftLeft, BitVec.getLsbD_setWidth,
    BitVec.getLsbD_ushiftRight]
  by_cases h : i < 16
  · simp [h, hi]
  · have e : 16 + (i - 16) = i := by omega
    simp [h, hi, e, show i - 16 < 16 by omega]
    intro _; omega

/-- **With the product shifter off (`ps[0] = 0`) `push p ; pop p` restores `p[0]` and `sp`**;
`pe[0]` becomes bit 31 of `p[0]` (so it is restored exactly when it was that bit). -/
theorem push_pop_p_partial (c : Core) (conv : U32) (ho : OrdinaryAt c.bus (c.regs.sp - 1) conv)
    (hps : c.regs.ps[0] = 0) :
    ∃ c', (do Exec.push_Register 11; Exec.pop_Register 11 : Exec Unit).run c = .ok ((), c') ∧
      c'.regs.p = c.regs.p ∧ c'.regs.sp = c.regs.sp ∧
      c'.regs.pe = c.regs.pe.set 0 (Alu.b2u (((c.regs.p[0] >>> 16).setWidth 16 : U16).toNat > 0x7FFF)) := by
  have key := push_pop_p c conv ho
  rw [pHighBus, hps, productToBus40_high_noshift] at key
  refine ⟨_, key, ?_, rfl, rfl⟩
  show c.regs.p.set 0 _ (by decide) = c.regs.p
  rw [p_high_back, Vector.set_getElem_self]

/-- Negative witness: with the shifter on (`ps[0] = 1`, `>> 1`) and `p[0] = 0x0002_0000` the word
pushed is `0x0001` and `p[0]` comes back as `0x0001_0000`; reading `p` again gives `0x0000`, so not
even the 16-bit value is restored. -/
theorem push_pop_p_counterexample :
    let r : Regs := { p := #v[0x20000, 0], ps := #v[1, 0] }
    pHighBus r = 1 ∧ (pHighSet (pHighBus r) r).p[0] = 0x10000 ∧ pHighBus (pHighSet (pHighBus r) r) = 0 := by
  decide +kernel

end Teakra
