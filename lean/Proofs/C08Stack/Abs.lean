import Proofs.C20Golden
import Proofs.Lemmas.Vset
/-!
# C08 — the pseudo-register words of the interpreter model, through C20

`Interp.wordGet` / `Interp.wordSet` (`TeakraModel/Interp.lean`) are `PseudoRegister::Get/Set` on
the interpreter's `Regs`; `Regs.getWord` / `Regs.setWord` (`TeakraModel/RegFile.lean`) are the same
on the generic cell file the layout theorems of `Proofs/C20.lean` are about.  Both `Get`s pack what
their proxies read in the same way (`Regs.packWord`), so `packWord_field` (C20: where the values fit
their slots, the bits of a slot are the value) holds of the interpreter model with the checked
layout table (`Regs.layouts_ok`) as it stands.
-/
namespace Teakra
open Teakra Interp
open Teakra.Regs (Slot resolve layouts)

theorem foldl_congr_mem {α β : Type} (l : List α) (f g : β → α → β) (b : β)
    (h : ∀ a ∈ l, ∀ b, f b a = g b a) : l.foldl f b = l.foldl g b := by
  induction l generalizing b with
  | nil => rfl
  | cons a l ih =>
    simp only [List.foldl_cons]
    rw [h a List.mem_cons_self, ih _ (fun a' ha' => h a' (List.mem_cons_of_mem _ ha'))]

/-- The members of the status words fit their slots: the hardware-width invariant, restricted to
what the slot list `slots` shows. -/
def WordFits (r : Regs) (slots : List Slot) : Prop := ∀ s ∈ slots, (slotGet r s).toNat < 2 ^ s.len

instance (r : Regs) (slots : List Slot) : Decidable (WordFits r slots) :=
  inferInstanceAs (Decidable (∀ s ∈ slots, _))

/-- **Field view on the interpreter model**: on a state whose members fit their slots, the bits of
each slot of a word of the layout table are the value the slot's proxy reads. -/
theorem wordGet_field (r : Regs) {name : String} {slots : List Slot} (hw : (name, slots) ∈ Regs.Golden.layouts)
    (hf : WordFits r slots) (s : Slot) (hs : s ∈ slots) :
    (wordGet slots r >>> s.pos) &&& BitVec.ofNat 16 (2 ^ s.len - 1) = slotGet r s := by
  have hok := Regs.layouts_ok (Regs.layouts_eq_golden ▸ hw : (name, slots) ∈ layouts)
  have hin : ∀ a ∈ slots, a.pos + a.len ≤ 16 := fun a ha => by
    rw [← Regs.resolve_len, ← Regs.resolve_pos]
    exact (hok.slot _ (Regs.mem_resolve ha)).1.2
  have hd := (List.pairwise_map.mp hok.compat).imp fun {a b} (c : Regs.Compat (resolve a) (resolve b)) => by
    have := c.ranges
    rwa [Regs.resolve_len, Regs.resolve_pos, Regs.resolve_len, Regs.resolve_pos] at this
  rw [← Regs.lowMask_eq_ofNat _ (by have := hin s hs; omega)]
  exact Regs.packWord_field (pos := Slot.pos) (len := Slot.len) (val := slotGet r) hin hd hf hs

theorem wordSet_wordGet_fold (r : Regs) {name : String} {slots : List Slot} (hw : (name, slots) ∈ Regs.Golden.layouts)
    (hf : WordFits r slots) :
    wordSet slots r (wordGet slots r) = slots.foldl (fun r' s => slotSet r' s (slotGet r s)) r :=
  foldl_congr_mem _ _ _ _ fun s hs _ => by rw [wordGet_field r hw hf s hs]

/-- **Set after get.**  If every slot's proxy is idempotent on `r` (`slotSet r s (slotGet r s) = r`),
writing a word back with the value just read leaves the register file unchanged. -/
theorem wordSet_wordGet (r : Regs) {name : String} {slots : List Slot} (hw : (name, slots) ∈ Regs.Golden.layouts)
    (hf : WordFits r slots) (hid : ∀ s ∈ slots, slotSet r s (slotGet r s) = r) :
    wordSet slots r (wordGet slots r) = r := by
  rw [wordSet_wordGet_fold r hw hf]
  clear hw hf
  induction slots with
  | nil => rfl
  | cons s l ih =>
    rw [List.foldl_cons, hid s List.mem_cons_self]
    exact ih fun s' hs' => hid s' (List.mem_cons_of_mem _ hs')

end Teakra
