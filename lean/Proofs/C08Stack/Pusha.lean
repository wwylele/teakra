import Proofs.C08Stack.Word
import Proofs.Lemmas.Bits
import Proofs.C03Exec
/-!
# C08 — accumulator access, and `pusha ax|bx ; popa ab`

* `GetAcc`, `SetAcc`, `GetAndSatAcc`, `SetAccAndFlag` as functions on the register file.
* `pusha ax|bx` pushes the low 32 bits of the accumulator *after `GetAndSatAcc`* (saturated unless
  `sat ≠ 0`), low word first; `popa ab` pops high then low, and assigns
  `SignExtend<32>(h:l)` with `SetAccAndFlag` (flags `fz fm fe fn` recomputed, no saturation).
-/
namespace Teakra
open Teakra Exec ExecLemmas Interp Sys RegName

/-! ## accumulator access -/

def accOf (r : Regs) (isB : Bool) (i : Fin 2) : U64 := if isB then r.b[i] else r.a[i]

def setAccOf (r : Regs) (isB : Bool) (i : Fin 2) (v : U64) : Regs :=
  if isB then { r with b := r.b.set i v } else { r with a := r.a.set i v }

/-- The same accumulator as `Interp.accOf` (C03) with the pair as its key. -/
theorem accOf_eq (r : Regs) (isB : Bool) (i : Fin 2) : accOf r isB i = Interp.accOf r (isB, i) := by
  cases isB <;> rfl

theorem setAccOf_eq (r : Regs) (isB : Bool) (i : Fin 2) (v : U64) :
    setAccOf r isB i v = Interp.setAccOf r (isB, i) v := by
  cases isB <;> rfl

theorem getAcc_run' (n : RegName) (isB : Bool) (i : Fin 2) (h : accIndex n = some (isB, i)) (c : Core) :
    (getAcc n).run c = .ok (accOf c.regs isB i, c) := by
  rw [accOf_eq]; exact Interp.run_getAcc n _ h c

/-- `GetAndSatAcc` on the register file: value read and the registers afterwards (`flm := 1` if
saturation happened). -/
def satRead (r : Regs) (acc : U64) : U64 × Regs :=
  if r.sat == 0 then
    ((Alu.saturate acc).1, if (Alu.saturate acc).2 = true then { r with flm := 1 } else r)
  else (acc, r)

theorem getAndSatAcc_run (n : RegName) (isB : Bool) (i : Fin 2) (h : accIndex n = some (isB, i)) (c : Core) :
    (getAndSatAcc n).run c =
      .ok ((satRead c.regs (accOf c.regs isB i)).1, { c with regs := (satRead c.regs (accOf c.regs isB i)).2 }) := by
  unfold getAndSatAcc satRead
  rw [run_bind, getAcc_run' n isB i h]
  simp only [except_ok_bind, run_bind, run_getRegs]
  split
  · exact run_saturateAcc _ c
  · rfl

theorem satRead_off (r : Regs) (acc : U64) (h : r.sat ≠ 0) : satRead r acc = (acc, r) := by
  unfold satRead
  rw [if_neg (by simpa using h)]

theorem satRead_fits (r : Regs) (acc : U64) (h : acc = Alu.signExtend 32 acc) : satRead r acc = (acc, r) := by
  unfold satRead
  rw [Alu.saturate_of_fits acc (by rw [← h]; simp)]
  split <;> rfl

theorem satRead_sp (r : Regs) (acc : U64) : (satRead r acc).2.sp = r.sp := by
  unfold satRead
  split
  · simp only []; split <;> rfl
  · rfl

theorem accOf_satRead (r : Regs) (acc : U64) (isB : Bool) (i : Fin 2) :
    accOf (satRead r acc).2 isB i = accOf r isB i := by
  unfold satRead
  split
  · simp only []; split <;> cases isB <;> rfl
  · rfl

def setAccAndFlagPure (isB : Bool) (i : Fin 2) (v : U64) (r : Regs) : Regs :=
  setAccOf { r with fz := (Alu.accFlags v).fz, fm := (Alu.accFlags v).fm, fe := (Alu.accFlags v).fe,
                    fn := (Alu.accFlags v).fn } isB i v

theorem setAccAndFlagPure_eq (isB : Bool) (i : Fin 2) (v : U64) (r : Regs) :
    setAccAndFlagPure isB i v r = Interp.setFlagRegs r (isB, i) v := by
  unfold setAccAndFlagPure; rw [setAccOf_eq]; rfl

theorem setAccAndFlag_run (n : RegName) (isB : Bool) (i : Fin 2) (h : accIndex n = some (isB, i)) (v : U64)
    (c : Core) :
    (setAccAndFlag n v).run c = .ok ((), { c with regs := setAccAndFlagPure isB i v c.regs }) := by
  rw [setAccAndFlagPure_eq]; exact Interp.run_setAccAndFlag n _ h v c

/-! ## `pusha` / `popa` -/

def pushaBody (n : RegName) : Exec Unit := do
  let value : U32 := ((← getAndSatAcc n) &&& 0xFFFFFFFF).setWidth 32
  let h : U16 := (value >>> 16).setWidth 16
  let l : U16 := (value &&& 0xFFFF).setWidth 16
  pushWord l
  pushWord h

theorem pusha_Ax_eq (a : Nat) : Exec.pusha_Ax a = pushaBody (Ax.name a) := rfl
theorem pusha_Bx_eq (a : Nat) : Exec.pusha_Bx a = pushaBody (Bx.name a) := rfl

def lowWord (v : U64) : U16 := ((v.setWidth 32 : U32) &&& 0xFFFF).setWidth 16
def highWord (v : U64) : U16 := ((v.setWidth 32 : U32) >>> 16).setWidth 16

/-- **`pusha` then `popa` on the same accumulator**, closed form.  Let `(v, r₁)` be the result of
`GetAndSatAcc` (`v` = the accumulator, saturated to 32 bits when `sat = 0`; `r₁` = the registers
with `flm := 1` if that saturation happened).  After the pair: the accumulator is
`SignExtend<32>(v)`, the flags `fz fm fe fn` are those of that value, `sp` and every other register
are as in `r₁`, the two stack slots hold the low and the high word of `v`. -/
theorem pusha_popa (n : RegName) (j : Nat) (isB : Bool) (i : Fin 2)
    (hn : accIndex n = some (isB, i)) (hm : accIndex (Ab.name j) = some (isB, i))
    (c : Core) (a1 a2 : U32)
    (h1 : OrdinaryAt c.bus (c.regs.sp - 1) a1) (h2 : OrdinaryAt c.bus (c.regs.sp - 2) a2) :
    (do pushaBody n; Exec.popa_Ab j : Exec Unit).run c =
      .ok ((),
        { afterPushPop2 { c with regs := (satRead c.regs (accOf c.regs isB i)).2 } a1 a2
            (lowWord (satRead c.regs (accOf c.regs isB i)).1) (highWord (satRead c.regs (accOf c.regs isB i)).1) with
          regs := setAccAndFlagPure isB i (Alu.signExtend 32 (satRead c.regs (accOf c.regs isB i)).1)
                    (satRead c.regs (accOf c.regs isB i)).2 }) := by
  generalize hsr : satRead c.regs (accOf c.regs isB i) = sr
  have hsp : sr.2.sp = c.regs.sp := by rw [← hsr]; exact satRead_sp _ _
  unfold pushaBody Exec.popa_Ab
  rw [bind_assoc, run_bind, getAndSatAcc_run n isB i hn, hsr, except_ok_bind, low32_setWidth,
    push2_pop2 _ _ _ a1 a2 _ (h1.setRegs hsp) (h2.setRegs hsp), setAccAndFlag_run _ isB i hm, join16_64,
    signExtend32_setWidth]
  rfl

/-- The index pairs: `pusha a0|a1 ; popa a0|a1` is `pusha_Ax i ; popa_Ab (i + 2)`,
`pusha b0|b1 ; popa b0|b1` is `pusha_Bx i ; popa_Ab i`. -/
theorem accIndex_Ab_a (i : Fin 2) : accIndex (Ab.name (i.val + 2)) = some (false, i) := by
  rcases fin2_cases i with rfl | rfl <;> rfl
theorem accIndex_Ab_b (i : Fin 2) : accIndex (Ab.name i.val) = some (true, i) := by
  rcases fin2_cases i with rfl | rfl <;> rfl

theorem setAccOf_accOf (r : Regs) (isB : Bool) (i : Fin 2) : setAccOf r isB i (accOf r isB i) = r := by
  cases isB
  · exact congrArg (fun v => ({ r with a := v } : Regs)) (Vector.set_getElem_self _)
  · exact congrArg (fun v => ({ r with b := v } : Regs)) (Vector.set_getElem_self _)

/-- The registers after a successful accumulator round trip: only the four value flags are
recomputed from the accumulator. -/
def withAccFlags (r : Regs) (v : U64) : Regs :=
  { r with fz := (Alu.accFlags v).fz, fm := (Alu.accFlags v).fm, fe := (Alu.accFlags v).fe,
           fn := (Alu.accFlags v).fn }

theorem setAccAndFlagPure_self (r : Regs) (isB : Bool) (i : Fin 2) :
    setAccAndFlagPure isB i (accOf r isB i) r = withAccFlags r (accOf r isB i) :=
  (congrArg (setAccOf _ isB i) (by cases isB <;> rfl)).trans (setAccOf_accOf (withAccFlags r (accOf r isB i)) isB i)

theorem accOf_setAccAndFlagPure (r : Regs) (isB : Bool) (i : Fin 2) (v : U64) :
    accOf (setAccAndFlagPure isB i v r) isB i = v := by
  rw [accOf_eq, setAccAndFlagPure_eq]; exact Interp.accOf_setAccOf _ _ _

/-- **The whole accumulator is restored** exactly when it is the sign extension of its low 32 bits
(then saturation is irrelevant): the only registers that change are the flags `fz fm fe fn`, which
take the values `SetAccFlag` computes from the accumulator. -/
theorem pusha_popa_restores (n : RegName) (j : Nat) (isB : Bool) (i : Fin 2)
    (hn : accIndex n = some (isB, i)) (hm : accIndex (Ab.name j) = some (isB, i))
    (c : Core) (a1 a2 : U32)
    (h1 : OrdinaryAt c.bus (c.regs.sp - 1) a1) (h2 : OrdinaryAt c.bus (c.regs.sp - 2) a2)
    (hfit : accOf c.regs isB i = Alu.signExtend 32 (accOf c.regs isB i)) :
    (do pushaBody n; Exec.popa_Ab j : Exec Unit).run c =
      .ok ((),
        { afterPushPop2 c a1 a2 (lowWord (accOf c.regs isB i)) (highWord (accOf c.regs isB i)) with
          regs := withAccFlags c.regs (accOf c.regs isB i) }) := by
  rw [pusha_popa n j isB i hn hm c a1 a2 h1 h2, satRead_fits _ _ hfit, ← hfit, setAccAndFlagPure_self]

/-- **What is restored in general with saturation disabled** (`sat ≠ 0`): the low 32 bits; bits
32..63 become copies of bit 31 (`SignExtend<32>`), so a 40-bit accumulator whose extension is not
the sign of bit 31 is *not* restored by the two-word pair alone (`push abe`/`pop abe` handle the
extension). -/
theorem pusha_popa_sat_off (n : RegName) (j : Nat) (isB : Bool) (i : Fin 2)
    (hn : accIndex n = some (isB, i)) (hm : accIndex (Ab.name j) = some (isB, i))
    (c : Core) (a1 a2 : U32)
    (h1 : OrdinaryAt c.bus (c.regs.sp - 1) a1) (h2 : OrdinaryAt c.bus (c.regs.sp - 2) a2)
    (hsat : c.regs.sat ≠ 0) :
    (do pushaBody n; Exec.popa_Ab j : Exec Unit).run c =
      .ok ((),
        { afterPushPop2 c a1 a2 (lowWord (accOf c.regs isB i)) (highWord (accOf c.regs isB i)) with
          regs := setAccAndFlagPure isB i (Alu.signExtend 32 (accOf c.regs isB i)) c.regs }) := by
  rw [pusha_popa n j isB i hn hm c a1 a2 h1 h2, satRead_off _ _ hsat]

/-- Negative witness: with saturation disabled, an accumulator with a non-sign extension
(`0x01_0000_0000`) comes back as `0`. -/
theorem pusha_popa_ext_counterexample :
    accOf (setAccAndFlagPure false 0 (Alu.signExtend 32 (0x100000000 : U64)) {}) false 0 ≠ (0x100000000 : U64) := by
  rw [accOf_setAccAndFlagPure]; decide

/-- Negative witness: with saturation *enabled* (`sat = 0`), an accumulator that does not fit 32
bits is pushed saturated: `0x01_0000_0001` comes back as `0x7FFF_FFFF` and `flm` is set. -/
theorem pusha_popa_sat_counterexample :
    let r : Regs := { a := #v[0x100000001, 0], sat := 0 }
    (satRead r (accOf r false 0)).1 = 0x7FFFFFFF ∧ (satRead r (accOf r false 0)).2.flm = 1 := by
  decide +kernel

end Teakra
