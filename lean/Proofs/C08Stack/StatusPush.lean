import Proofs.C08Stack.Status
import Proofs.C08Stack.PushPop
import Proofs.C08Stack.PxAbe
/-!
# C08 — `push word ; pop word` for the status / config / `ar` / `arp` words

`push st0|st1|st2|cfgi|cfgj` (operand `Register`) and `push ar0..arp3|stt0..stt2|mod0..mod3`
(operand `ArArpSttMod`) push `RegisterState::Get<word>()`; the matching `pop` runs
`RegisterState::Set<word>(value)`.  So the pair leaves `Set<word>(Get<word>())` of the register file, with no side
condition (`push_pop_pseudo_*`), and `status_set_get` (`Proofs/C08Stack/Status.lean`) says when that is the register
file itself: `push_pop_status_*`.  The witnesses at the end are states where a condition fails and the pair changes a
register: `flm ≠ fvl`, an accumulator beyond 36 bits, an active hardware loop, a member wider than its slot.
-/
namespace Teakra
open Teakra Exec ExecLemmas Interp Sys RegName
open Teakra.Regs (Slot)

theorem regToBus16_pseudo (n : RegName) (w : String) (h : pseudoName n = some w) (sat : Bool) (c : Core) :
    (regToBus16 n sat).run c = .ok (wordGet (layoutOf w) c.regs, c) := by
  cases n <;> cases h <;> rfl

theorem regFromBus16_pseudo (n : RegName) (w : String) (h : pseudoName n = some w) (v : U16) (c : Core) :
    (regFromBus16 n v).run c = .ok ((), { c with regs := wordSet (layoutOf w) c.regs v }) := by
  cases n <;> cases h <;> rfl

theorem pseudoName_mem (n : RegName) (w : String) (h : pseudoName n = some w) : w ∈ pseudoWords := by
  cases n <;> cases h <;> decide

theorem push_pop_pseudo_register (a : Nat) (w : String) (h : pseudoName (Register.name a) = some w)
    (c : Core) (conv : U32) (ho : OrdinaryAt c.bus (c.regs.sp - 1) conv) :
    (do Exec.push_Register a; Exec.pop_Register a : Exec Unit).run c =
      .ok ((), { afterPushPop c conv (wordGet (layoutOf w) c.regs) with
                 regs := wordSet (layoutOf w) c.regs (wordGet (layoutOf w) c.regs) }) :=
  push_pop_of (regToBus16 (Register.name a) true) (regFromBus16 (Register.name a)) c c _ conv
    (fun v r => wordSet (layoutOf w) r v)
    (regToBus16_pseudo _ w h true c) (fun v c' => regFromBus16_pseudo _ w h v c') ho

theorem push_pop_pseudo_arArpSttMod (a : Nat) (w : String) (h : pseudoName (ArArpSttMod.name a) = some w)
    (c : Core) (conv : U32) (ho : OrdinaryAt c.bus (c.regs.sp - 1) conv) :
    (do Exec.push_ArArpSttMod a; Exec.pop_ArArpSttMod a : Exec Unit).run c =
      .ok ((), { afterPushPop c conv (wordGet (layoutOf w) c.regs) with
                 regs := wordSet (layoutOf w) c.regs (wordGet (layoutOf w) c.regs) }) :=
  push_pop_of (regToBus16 (ArArpSttMod.name a)) (regFromBus16 (ArArpSttMod.name a)) c c _ conv
    (fun v r => wordSet (layoutOf w) r v)
    (regToBus16_pseudo _ w h false c) (fun v c' => regFromBus16_pseudo _ w h v c') ho

/-- **Status / config / `ar` / `arp` words are restored**: under the width invariant for the
members the word shows and the word's side condition (`stt2`: no hardware loop; `st0`: `flm = fvl`
and `a0` within 36 bits; `st1`: `a1` within 36 bits) the *whole register file* is as before. -/
theorem push_pop_status_register (a : Nat) (w : String) (h : pseudoName (Register.name a) = some w)
    (c : Core) (conv : U32) (ho : OrdinaryAt c.bus (c.regs.sp - 1) conv)
    (hf : WordFits c.regs (layoutOf w)) (hs : StatusSide w c.regs) :
    (do Exec.push_Register a; Exec.pop_Register a : Exec Unit).run c =
      .ok ((), afterPushPop c conv (wordGet (layoutOf w) c.regs)) := by
  rw [push_pop_pseudo_register a w h c conv ho, status_set_get w (pseudoName_mem _ w h) c.regs hf hs]
  rfl

theorem push_pop_status_arArpSttMod (a : Nat) (w : String) (h : pseudoName (ArArpSttMod.name a) = some w)
    (c : Core) (conv : U32) (ho : OrdinaryAt c.bus (c.regs.sp - 1) conv)
    (hf : WordFits c.regs (layoutOf w)) (hs : StatusSide w c.regs) :
    (do Exec.push_ArArpSttMod a; Exec.pop_ArArpSttMod a : Exec Unit).run c =
      .ok ((), afterPushPop c conv (wordGet (layoutOf w) c.regs)) := by
  rw [push_pop_pseudo_arArpSttMod a w h c conv ho, status_set_get w (pseudoName_mem _ w h) c.regs hf hs]
  rfl

theorem pseudo_operands :
    (List.range 32).filterMap (fun a => (pseudoName (Register.name a)).map (fun w => (a, w))) =
      [(8, "st0"), (9, "st1"), (10, "st2"), (14, "cfgi"), (15, "cfgj")] ∧
    (List.range 16).filterMap (fun a => (pseudoName (ArArpSttMod.name a)).map (fun w => (a, w))) =
      [(0, "ar0"), (1, "ar1"), (2, "arp0"), (3, "arp1"), (4, "arp2"), (5, "arp3"), (8, "stt0"), (9, "stt1"),
       (10, "stt2"), (12, "mod0"), (13, "mod1"), (14, "mod2"), (15, "mod3")] := by
  decide +kernel

/-! ## the side conditions, characterised -/

private theorem and_mask4_bit64' (x : U64) (i : Nat) :
    (x &&& ((15 : Nat) : U64)).getLsbD i = (x.getLsbD i && decide (i < 4)) :=
  getLsbD_and_lowMask 4 x i

theorem accENorm_of_signExtend36 (a : U64) (h : a = Alu.signExtend 36 a) : accENorm a = a :=
  ext_rebuild (k := 3) (fun j hj => by
    simp only [BitVec.getLsbD_setWidth, and_mask4_bit64, BitVec.getLsbD_ushiftRight]
    simp [show j < 4 from hj, show j < 16 by omega, show j < 32 by omega]) h

/-- The reset state satisfies the width invariant for every word and every side condition (so the
hypotheses of `push_pop_status_*` are satisfiable). -/
theorem reset_status_ok :
    (∀ w ∈ pseudoWords, WordFits ({} : Regs) (layoutOf w)) ∧
    ({} : Regs).flm = ({} : Regs).fvl ∧ accENorm ({} : Regs).a[0] = ({} : Regs).a[0] ∧
    accENorm ({} : Regs).a[1] = ({} : Regs).a[1] ∧ ({} : Regs).lp = 0 := by
  decide +kernel

/-! ## negative witnesses: the documented exceptions are real -/

/-- `push st0 ; pop st0` with `flm = 1`, `fvl = 0`: bit 5 reads `flm | fvl = 1` and the write sets
both, so `fvl` becomes `1`. -/
theorem push_pop_st0_counterexample :
    let r : Regs := { flm := 1, fvl := 0 }
    WordFits r (layoutOf "st0") ∧ accENorm r.a[0] = r.a[0] ∧
    (wordSet (layoutOf "st0") r (wordGet (layoutOf "st0") r)).fvl = 1 := by
  decide +kernel

/-- `push st1 ; pop st1` with `a1 = 0x7F_0000_0000` (a valid 40-bit accumulator): the word carries
only bits 32..35, `Set` sign-extends that nibble, and `a1` becomes `0xFFFF_FFFF_0000_0000`. -/
theorem push_pop_st1_counterexample :
    let r : Regs := { a := #v[0, 0x7F00000000] }
    WordFits r (layoutOf "st1") ∧ SignExt40 r.a[1] ∧
    (wordSet (layoutOf "st1") r (wordGet (layoutOf "st1") r)).a[1] = 0xFFFFFFFF00000000 := by
  decide +kernel

/-- `push stt2 ; pop stt2` inside a hardware loop (`lp = 1`, `bcn = 3`): the loop flag is
write-one-to-clear, so the pair ends the loop (`lp = 0`, `bcn = 0`) — "no hardware loop active" is
a necessary side condition of the property. -/
theorem push_pop_stt2_counterexample :
    let r : Regs := { lp := 1, bcn := 3 }
    WordFits r (layoutOf "stt2") ∧
    (wordSet (layoutOf "stt2") r (wordGet (layoutOf "stt2") r)).lp = 0 ∧
    (wordSet (layoutOf "stt2") r (wordGet (layoutOf "stt2") r)).bcn = 0 := by
  decide +kernel

/-- Without the width invariant a member bleeds into its neighbour's bits (C20
`get_set_fails_without_WF`): with `iu[0] = 0x10` the word `stt1` shows bit 14 set although
`pe[0] = 0`, and popping it sets `pe[0] := 1`. -/
theorem push_pop_width_counterexample :
    let r : Regs := { iu := #v[0x10, 0] }
    (wordSet (layoutOf "stt1") r (wordGet (layoutOf "stt1") r)).pe[0] = 1 ∧ r.pe[0] = 0 := by
  decide +kernel

end Teakra
