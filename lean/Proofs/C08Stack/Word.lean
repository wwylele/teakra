import Proofs.Lemmas.CoreBus
import Proofs.C11
/-!
# C08 — one word, two words on the stack

`mem.DataWrite(--sp, v)` followed by `mem.DataRead(sp++)` on a stack slot that is ordinary data
memory (`OrdinaryAt`, `Proofs/Lemmas/CoreBus.lean`, where the single accesses are): the read returns `v`, `sp` is
back, no register changes, the only memory word that may differ is the stack slot, the two accesses are logged and
no callback runs.  The read-after-write fact is `Bus.Mem.read_write` of C11, and `busRead_busWrite_views` is the same
seen through C11's ports.  Two pushes need that different addresses are different memory words whatever the page
registers hold (`OrdinaryAt.cell_ne`, from C11's `data_cell_page`).
-/
namespace Teakra
open Teakra Exec ExecLemmas Interp Sys

/-! ## the memory word behind an ordinary data address -/

theorem OrdinaryAt.cell {b : Bus} {a : U16} {conv : U32} (h : OrdinaryAt b a conv) :
    Bus.Port.cell b (.data a false) = some (stackCell conv) := by
  simp only [Bus.Port.cell, h.notMmio, h.convert, Bus.wordCell, h.inRange, Bool.false_and,
    Bool.false_eq_true, if_false, if_true, stackCell]

theorem OrdinaryAt.cell_eq {b : Bus} {a : U16} {conv : U32} (h : OrdinaryAt b a conv) :
    ∃ page : Nat, page < 2 ∧ stackCell conv = 0x20000 + 0x10000 * page + a.toNat := by
  have hc := Bus.convert_asserts b.miu a
  have hp := Bus.data_cell_page b a false (by rw [h.notMmio]; rfl)
  generalize (if b.miu.pageMode = 0 then b.miu.zPage
      else if a.toNat ≤ b.miu.xSize[0].toNat * 0x400 then b.miu.xPage else b.miu.yPage) = page at hc hp
  by_cases hlt : page < 2
  · exact ⟨page.toNat, hlt, Option.some.inj (h.cell.symm.trans (hp hlt))⟩
  · -- `ConvertDataAddress` would have failed its `ASSERT`
    rw [h.convert] at hc
    simp only [if_neg hlt] at hc
    cases hc

theorem OrdinaryAt.cell_ne {b : Bus} {a a' : U16} {conv conv' : U32} (h : OrdinaryAt b a conv)
    (h' : OrdinaryAt b a' conv') (hne : a ≠ a') : stackCell conv ≠ stackCell conv' := by
  obtain ⟨p, hp, e⟩ := h.cell_eq
  obtain ⟨p', hp', e'⟩ := h'.cell_eq
  have : a.toNat ≠ a'.toNat := fun e => hne (BitVec.eq_of_toNat_eq e)
  have := a.isLt
  have := a'.isLt
  omega

theorem OrdinaryAt.setRegs {c : Core} {conv : U32} {k : U16} (h : OrdinaryAt c.bus (c.regs.sp - k) conv)
    {R : Regs} (hsp : R.sp = c.regs.sp) :
    OrdinaryAt ({ c with regs := R } : Core).bus (({ c with regs := R } : Core).regs.sp - k) conv := by
  show OrdinaryAt c.bus (R.sp - k) conv
  rw [hsp]; exact h

/-! ## read after write -/

/-- **Read after write on an ordinary address** (by `Bus.Mem.read_write` of C11, on which its `views_agree` rests):
after `mem.DataWrite(a, v)`, `mem.DataRead(a)` returns `v`. -/
theorem busRead_busWrite_ordinary (c : Core) (a v : U16) (conv : U32) (h : OrdinaryAt c.bus a conv) :
    (c.busWrite a v >>= fun c' => c'.busRead a) =
      .ok (v, { c with bus := { c.bus with mem := c.bus.mem.write (stackCell conv) v }
                       log := ⟨Mem.byteAddr conv, false, 0⟩ :: ⟨Mem.byteAddr conv, true, v⟩ :: c.log }) := by
  rw [busWrite_ordinary c a v conv h]
  refine (busRead_ordinary
    ({ c with bus := { c.bus with mem := c.bus.mem.write (stackCell conv) v }
              log := ⟨Mem.byteAddr conv, true, v⟩ :: c.log } : Core) a conv (h.after_write _)).trans ?_
  simp only [Bus.Mem.read_write, if_true]

/-- The same as an instance of C11's `views_agree`. -/
theorem busRead_busWrite_views (b b' : Bus) (a v : U16) (conv : U32) (h : OrdinaryAt b a conv)
    (hw : Bus.Port.write b v (.data a false) = .ok b') : Bus.Port.read b' (.data a false) = .ok v :=
  Bus.views_agree b b' (.data a false) (.data a false) v _ h.cell hw h.cell

theorem fin2_cases (i : Fin 2) : i = 0 ∨ i = 1 := by omega

theorem sub_two_add_one (x : U16) : x - 2 + 1 = x - 1 := by rw [← sub_one_sub_one, BitVec.sub_add_cancel]
theorem sub_one_ne_sub_two (x : U16) : x - 1 ≠ x - 2 := by bv_omega
theorem sub_two_ne_sub_one (x : U16) : x - 2 ≠ x - 1 := (sub_one_ne_sub_two x).symm

/-- The machine after a push/pop pair of `v` through the slot `conv`: everything as before except
the stack slot (now holding `v`) and the two logged accesses. -/
def afterPushPop (c : Core) (conv : U32) (v : U16) : Core :=
  { c with bus := { c.bus with mem := c.bus.mem.write (stackCell conv) v }
           log := ⟨Mem.byteAddr conv, false, 0⟩ :: ⟨Mem.byteAddr conv, true, v⟩ :: c.log }

/-- **Word level round trip.**  With the stack slot `sp - 1` in ordinary memory, `pushWord v`
followed by `popWord` succeeds, returns `v`, and leaves the machine as `afterPushPop`: the whole
register file (so `sp` too), the peripherals, the latches, the event log and `idle` unchanged; the
memory differs at most in the word of the slot; the access log has grown by the write and the
read. -/
theorem push_pop_word (c : Core) (v : U16) (conv : U32) (h : OrdinaryAt c.bus (c.regs.sp - 1) conv) :
    (do pushWord v; popWord : Exec U16).run c = .ok (v, afterPushPop c conv v) := by
  rw [run_bind, pushWord_ordinary c v conv h, except_ok_bind,
    popWord_ordinary (pushed1 c conv v) conv (h.after_write _)]
  simp only [pushed1, popped1, Bus.Mem.read_write, if_true, afterPushPop]
  congr 3
  show ({ c.regs with sp := c.regs.sp - 1 + 1 } : Regs) = c.regs
  rw [BitVec.sub_add_cancel]

/-- What `push_pop_word` leaves unchanged, field by field. -/
theorem push_pop_word_frame (c : Core) (v : U16) (conv : U32) :
    (afterPushPop c conv v).regs = c.regs ∧ (afterPushPop c conv v).events = c.events ∧
    (afterPushPop c conv v).ipend = c.ipend ∧ (afterPushPop c conv v).vpend = c.vpend ∧
    (afterPushPop c conv v).vctx = c.vctx ∧ (afterPushPop c conv v).vaddr = c.vaddr ∧
    (afterPushPop c conv v).idle = c.idle ∧
    (afterPushPop c conv v).bus.miu = c.bus.miu ∧ (afterPushPop c conv v).bus.per = c.bus.per ∧
    (afterPushPop c conv v).bus.ext = c.bus.ext ∧
    (∀ w, w ≠ stackCell conv → (afterPushPop c conv v).bus.mem.read w = c.bus.mem.read w) ∧
    (afterPushPop c conv v).bus.mem.read (stackCell conv) = v := by
  refine ⟨rfl, rfl, rfl, rfl, rfl, rfl, rfl, rfl, rfl, rfl, fun w hw => ?_, ?_⟩
  · simp [afterPushPop, Bus.Mem.read_write, hw]
  · simp [afterPushPop, Bus.Mem.read_write]

/-! ## two words on the stack -/

theorem pushed2_words (c : Core) (w1 w2 : U16) (a1 a2 : U32)
    (h1 : OrdinaryAt c.bus (c.regs.sp - 1) a1) (h2 : OrdinaryAt c.bus (c.regs.sp - 2) a2) :
    (pushed2 c a1 a2 w1 w2).bus.mem.read (stackCell a1) = w1 ∧
    (pushed2 c a1 a2 w1 w2).bus.mem.read (stackCell a2) = w2 := by
  have hne : stackCell a1 ≠ stackCell a2 := h1.cell_ne h2 (sub_one_ne_sub_two _)
  constructor
  · show ((c.bus.mem.write _ _).write _ _).read _ = _
    rw [Bus.Mem.read_write, if_neg hne, Bus.Mem.read_write, if_pos rfl]
  · show ((c.bus.mem.write _ _).write _ _).read _ = _
    rw [Bus.Mem.read_write, if_pos rfl]

/-- `afterPushPop` for two words. -/
def afterPushPop2 (c : Core) (a1 a2 : U32) (w1 w2 : U16) : Core :=
  { c with
    bus := { c.bus with mem := (c.bus.mem.write (stackCell a1) w1).write (stackCell a2) w2 }
    log := ⟨Mem.byteAddr a1, false, 0⟩ :: ⟨Mem.byteAddr a2, false, 0⟩ ::
           ⟨Mem.byteAddr a2, true, w2⟩ :: ⟨Mem.byteAddr a1, true, w1⟩ :: c.log }

/-- **Two-word round trip**: the words come back in reverse order, `sp` is restored. -/
theorem push2_pop2 {α : Type} (c : Core) (w1 w2 : U16) (a1 a2 : U32) (k : U16 → U16 → Exec α)
    (h1 : OrdinaryAt c.bus (c.regs.sp - 1) a1) (h2 : OrdinaryAt c.bus (c.regs.sp - 2) a2) :
    (do (do pushWord w1; pushWord w2 : Exec Unit); (do let x ← popWord; let y ← popWord; k x y)).run c =
      (k w2 w1).run (afterPushPop2 c a1 a2 w1 w2) := by
  have o1 : OrdinaryAt (afterPushPop (pushed1 c a1 w1) a2 w2).bus (afterPushPop (pushed1 c a1 w1) a2 w2).regs.sp a1 :=
    (h1.after_write _).after_write _
  -- the inner pair `push w2 ; pop` is `push_pop_word` in the state after `push w1`
  rw [bind_assoc, run_bind, pushWord_ordinary c w1 a1 h1, except_ok_bind, ← bind_assoc, run_bind,
    push_pop_word _ w2 a2 (h2.after_push a1 w1), except_ok_bind, run_bind, popWord_ordinary _ a1 o1, except_ok_bind]
  -- `rw`, not `show`: unifying through the memory read unfolds `Mem.read`
  rw [show (afterPushPop (pushed1 c a1 w1) a2 w2).bus.mem.read (stackCell a1) = w1 from
    (pushed2_words c w1 w2 a1 a2 h1 h2).1]
  refine congrArg (k w2 w1).run ?_
  show ({ c with regs := { c.regs with sp := c.regs.sp - 1 + 1 }, bus := _, log := _ } : Core) = _
  rw [BitVec.sub_add_cancel]
  rfl

end Teakra
