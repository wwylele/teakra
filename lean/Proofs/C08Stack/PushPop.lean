import Proofs.C08Stack.Word
/-!
# C08 — `push reg` / `pop reg` for the plain 16-bit registers

`push Register` is `RegToBus16(name, true)` followed by `mem.DataWrite(--sp, value)`; `pop Register`
is `mem.DataRead(sp++)` followed by `RegFromBus16(name, value)`.

Operand class `Register` (`registerNames`, 32 names):

| class | names | round trip |
|---|---|---|
| plain | `r0..r5`, `r7`, `y0`, `sp`, `sv`, `lc`, `ext0..ext3` | identity on the register file (`push_pop_register`) |
| accumulator parts | `a0l a1l b0l b1l`, `a0h a1h b0h b1h`, `a0 a1` | `Proofs/C08Stack/Acc.lean` |
| product high word | `p` | `Proofs/C08Stack/PHigh.lean` |
| status / config words | `st0 st1 st2 cfgi cfgj` | `Proofs/C08Stack/StatusPush.lean` |
| `pc` | | `UNREACHABLE` in `RegToBus16` and in `RegFromBus16`; `push_pc_aborts` is the push |
-/
namespace Teakra
open Teakra Exec ExecLemmas Interp Sys RegName

/-! ## generic composition -/

/-- `get ; pushWord` then `popWord ; set` where `get` yields `v` in state `c1` (it may have changed
registers: saturation sets `flm`) and `set` is a function `f` of the register file: the stack
slot is written and read back, `sp` returns to its value, and the registers are `f v c1.regs`. -/
theorem push_pop_of (get : Exec U16) (set : U16 → Exec Unit) (c c1 : Core) (v : U16) (conv : U32)
    (f : U16 → Regs → Regs)
    (hget : get.run c = .ok (v, c1))
    (hset : ∀ v c', (set v).run c' = .ok ((), { c' with regs := f v c'.regs }))
    (h : OrdinaryAt c1.bus (c1.regs.sp - 1) conv) :
    (do (do let v ← get; pushWord v); (do let v ← popWord; set v) : Exec Unit).run c =
      .ok ((), { afterPushPop c1 conv v with regs := f v c1.regs }) := by
  rw [bind_assoc, run_bind, hget, except_ok_bind, ← bind_assoc, run_bind, push_pop_word c1 v conv h, except_ok_bind,
    hset]
  rfl

/-- `push_pop_of` when the value comes back into the place it was read from: nothing but the
stack slot and the log changes. -/
theorem push_pop_restores (get : Exec U16) (set : U16 → Exec Unit) (c : Core) (v : U16) (conv : U32)
    (f : U16 → Regs → Regs)
    (hget : get.run c = .ok (v, c))
    (hset : ∀ v c', (set v).run c' = .ok ((), { c' with regs := f v c'.regs }))
    (hid : f v c.regs = c.regs)
    (h : OrdinaryAt c.bus (c.regs.sp - 1) conv) :
    (do (do let v ← get; pushWord v); (do let v ← popWord; set v) : Exec Unit).run c =
      .ok ((), afterPushPop c conv v) := by
  rw [push_pop_of get set c c v conv f hget hset h, hid]; rfl

/-- `push_pop_restores` for a pair of handlers that read and write a member of the register file directly (the
dedicated forms at the end of the file).  `get` and `set` are implicit: at each use they are read off the bodies of the
two handlers. -/
theorem push_pop_member {get : Regs → U16} {set : U16 → Regs → Regs} (hid : ∀ r, set (get r) r = r)
    (c : Core) (conv : U32) (ho : OrdinaryAt c.bus (c.regs.sp - 1) conv) :
    (do (do let r ← getRegs; pushWord (get r)); (do let v ← popWord; modifyRegs (set v)) : Exec Unit).run c =
      .ok ((), afterPushPop c conv (get c.regs)) :=
  push_pop_restores (do let r ← getRegs; pure (get r)) (fun v => modifyRegs (set v)) c _ conv set rfl
    (fun _ _ => rfl) (hid _) ho

/-! ## the plain registers -/

/-- The names whose `RegToBus16` is a plain member read and whose `RegFromBus16` is a plain member
write.  `r6` is one of them but not a `Register` operand (`registerNames`; it has its own form, `push_pop_r6`), so the
class has the fifteen members of `plain_operands`. -/
def isPlain : RegName → Bool
  | r0 | r1 | r2 | r3 | r4 | r5 | r6 | r7 | y0 | sp | sv | lc | ext0 | ext1 | ext2 | ext3 => true
  | _ => false

def plainGet : RegName → Regs → U16
  | r0, r => r.r[0] | r1, r => r.r[1] | r2, r => r.r[2] | r3, r => r.r[3]
  | r4, r => r.r[4] | r5, r => r.r[5] | r6, r => r.r[6] | r7, r => r.r[7]
  | y0, r => r.y[0] | sp, r => r.sp | sv, r => r.sv | lc, r => r.lc
  | ext0, r => r.ext[0] | ext1, r => r.ext[1] | ext2, r => r.ext[2] | ext3, r => r.ext[3]
  | _, _ => 0

/-- `regs.Lc() = value` on the register file. -/
def setLcPure (value : U16) (r : Regs) : Regs :=
  let i := if r.lp != 0 then r.bcn.toNat - 1 else 0
  if h : i < 4 then { r with bkrep := r.bkrep.set i { r.bkrep[i] with lc := value } } else r

def plainSet : RegName → U16 → Regs → Regs
  | r0, v, r => { r with r := vset r.r 0 v } | r1, v, r => { r with r := vset r.r 1 v }
  | r2, v, r => { r with r := vset r.r 2 v } | r3, v, r => { r with r := vset r.r 3 v }
  | r4, v, r => { r with r := vset r.r 4 v } | r5, v, r => { r with r := vset r.r 5 v }
  | r6, v, r => { r with r := vset r.r 6 v } | r7, v, r => { r with r := vset r.r 7 v }
  | y0, v, r => { r with y := r.y.set 0 v } | sp, v, r => { r with sp := v }
  | sv, v, r => { r with sv := v } | lc, v, r => setLcPure v r
  | ext0, v, r => { r with ext := r.ext.set 0 v } | ext1, v, r => { r with ext := r.ext.set 1 v }
  | ext2, v, r => { r with ext := r.ext.set 2 v } | ext3, v, r => { r with ext := r.ext.set 3 v }
  | _, _, r => r

theorem regToBus16_plain (n : RegName) (h : isPlain n = true) (sat : Bool) (c : Core) :
    (regToBus16 n sat).run c = .ok (plainGet n c.regs, c) := by
  cases n <;> cases h <;> rfl

theorem regFromBus16_plain (n : RegName) (h : isPlain n = true) (v : U16) (c : Core) :
    (regFromBus16 n v).run c = .ok ((), { c with regs := plainSet n v c.regs }) := by
  cases n <;> cases h <;> rfl

private theorem vset_self {k : Nat} (v : Vector U16 k) (i : Nat) (h : i < k) : vset v i v[i] = v := by
  rw [vset_eq _ _ _ h, Vector.set_getElem_self]

/-- Writing `lc` back: the frame that `Lc()` reads is the frame `Lc() = value` writes, with or
without a hardware loop active. -/
theorem setLcPure_lc (r : Regs) : setLcPure r.lc r = r := by
  unfold setLcPure Regs.lc
  by_cases hlp : (r.lp != 0) = true
  · simp only [hlp, if_true]
    by_cases hi : r.bcn.toNat - 1 < 4
    · rw [dif_pos hi]
      have e : (r.bkrep.toArray.getD (r.bcn.toNat - 1) {}) = r.bkrep[r.bcn.toNat - 1] := by
        simp [Array.getD, hi]
      rw [e]
      exact congrArg (fun b => ({ r with bkrep := b } : Regs)) (Vector.set_getElem_self hi)
    · rw [dif_neg hi]
  · simp only [hlp, Bool.false_eq_true, if_false]
    rw [dif_pos (by decide : 0 < 4)]
    exact congrArg (fun b => ({ r with bkrep := b } : Regs)) (Vector.set_getElem_self (by decide))

theorem plainSet_plainGet (n : RegName) (r : Regs) : plainSet n (plainGet n r) r = r := by
  cases n <;> simp only [plainSet, plainGet, setLcPure_lc, vset_self, Vector.set_getElem_self]

/-- **`push reg ; pop reg` for a plain register** (operand value `a` with
`Register.name a ∈ {r0..r5, r7, y0, sp, sv, lc, ext0..ext3}`), stack slot in ordinary memory:
the *whole register file* is as before — the register's value and `sp` in particular — the slot
holds the value, two accesses are logged, nothing else changes.  No side condition on saturation
or hardware loops is needed for this class (`lc` included, `sp` included: `push sp` stores the
value before the decrement and `pop sp` assigns after the increment). -/
theorem push_pop_register (a : Nat) (h : isPlain (Register.name a) = true) (c : Core) (conv : U32)
    (ho : OrdinaryAt c.bus (c.regs.sp - 1) conv) :
    (do Exec.push_Register a; Exec.pop_Register a : Exec Unit).run c =
      .ok ((), afterPushPop c conv (plainGet (Register.name a) c.regs)) :=
  push_pop_restores (regToBus16 (Register.name a) true) (regFromBus16 (Register.name a)) c _ conv
    (plainSet (Register.name a)) (regToBus16_plain _ h true c) (fun v c' => regFromBus16_plain _ h v c')
    (plainSet_plainGet _ _) ho

theorem plain_operands :
    (List.range 32).filter (fun a => isPlain (Register.name a)) = [0, 1, 2, 3, 4, 5, 6, 7, 13, 20, 21, 22, 23, 30, 31] := by
  decide +kernel

/-- `push pc` / `pop pc` are `UNREACHABLE` in `RegToBus16` / `RegFromBus16`.  The theorem is the push; the pop gets
to its `UNREACHABLE` after the bus read. -/
theorem push_pc_aborts (c : Core) :
    (Exec.push_Register 12).run c = .error (.abort .assert) := rfl

/-! ## the dedicated one-word forms: `r6`, `x0`, `x1`, `y1`, `repc`, `prpage`, immediates -/

private theorem push_pop_direct (c : Core) (v : U16) (conv : U32) (f : U16 → Regs → Regs)
    (hid : f v c.regs = c.regs)
    (ho : OrdinaryAt c.bus (c.regs.sp - 1) conv) :
    (do (do pushWord v); (do let v ← popWord; modifyRegs (f v)) : Exec Unit).run c =
      .ok ((), afterPushPop c conv v) := by
  simpa only [pure_bind] using
    push_pop_restores (pure v) (fun v => modifyRegs (f v)) c v conv f rfl (fun _ _ => rfl) hid ho

theorem push_pop_r6 (c : Core) (conv : U32) (ho : OrdinaryAt c.bus (c.regs.sp - 1) conv) :
    (do Exec.push_r6; Exec.pop_r6 : Exec Unit).run c = .ok ((), afterPushPop c conv c.regs.r[6]) :=
  push_pop_member (fun _ => by rw [vset_self _ _ (by decide)]) c conv ho

theorem push_pop_x0 (c : Core) (conv : U32) (ho : OrdinaryAt c.bus (c.regs.sp - 1) conv) :
    (do Exec.push_x0; Exec.pop_x0 : Exec Unit).run c = .ok ((), afterPushPop c conv c.regs.x[0]) :=
  push_pop_member (fun _ => by rw [Vector.set_getElem_self]) c conv ho

theorem push_pop_x1 (c : Core) (conv : U32) (ho : OrdinaryAt c.bus (c.regs.sp - 1) conv) :
    (do Exec.push_x1; Exec.pop_x1 : Exec Unit).run c = .ok ((), afterPushPop c conv c.regs.x[1]) :=
  push_pop_member (fun _ => by rw [Vector.set_getElem_self]) c conv ho

theorem push_pop_y1 (c : Core) (conv : U32) (ho : OrdinaryAt c.bus (c.regs.sp - 1) conv) :
    (do Exec.push_y1; Exec.pop_y1 : Exec Unit).run c = .ok ((), afterPushPop c conv c.regs.y[1]) :=
  push_pop_member (fun _ => by rw [Vector.set_getElem_self]) c conv ho

theorem push_pop_repc (c : Core) (conv : U32) (ho : OrdinaryAt c.bus (c.regs.sp - 1) conv) :
    (do Exec.push_repc; Exec.pop_repc : Exec Unit).run c = .ok ((), afterPushPop c conv c.regs.repc) :=
  push_pop_member (fun _ => rfl) c conv ho

theorem push_pop_prpage (c : Core) (conv : U32) (ho : OrdinaryAt c.bus (c.regs.sp - 1) conv) :
    (do Exec.push_prpage; Exec.pop_prpage : Exec Unit).run c = .ok ((), afterPushPop c conv c.regs.prpage) :=
  push_pop_member (fun _ => rfl) c conv ho

theorem push_imm_pop_register (imm a : Nat) (h : isPlain (Register.name a) = true) (c : Core) (conv : U32)
    (ho : OrdinaryAt c.bus (c.regs.sp - 1) conv) :
    (do Exec.push_Imm16 imm; Exec.pop_Register a : Exec Unit).run c =
      .ok ((), { afterPushPop c conv (imm16 imm) with regs := plainSet (Register.name a) (imm16 imm) c.regs }) := by
  unfold Exec.push_Imm16 Exec.pop_Register
  rw [← bind_assoc, run_bind, push_pop_word c _ conv ho, except_ok_bind, regFromBus16_plain _ h]
  rfl

end Teakra
