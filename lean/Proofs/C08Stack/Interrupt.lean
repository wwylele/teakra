import Proofs.C08
import Proofs.C08Stack.CallRet
/-!
# C08 — interrupt entry followed by return from interrupt

`enterLine i` / `enterVectored` (the body of the interrupt block of `Interpreter::Run`: `Proofs/Cycle/Poll.lean`,
closed forms in `Proofs/C07/Entry.lean`) push the `pc` of the next unexecuted instruction; `reti` / `retic` pop it and
set `ie := 1`.  With a context switch configured (`ic[i] ≠ 0`, resp. the latched
`vinterrupt_context_switch`) the entry also runs `ContextStore`, which `retic` undoes
(`cntx_r_cntx_s`, `Proofs/C08.lean`).
-/
namespace Teakra
open Teakra Exec ExecLemmas Interp Sys

/-! ## context store / restore commute with the registers the interrupt block writes -/

def setInt (r : Regs) (n : IntPart) : Regs :=
  { r with ie := n.ie, ip := n.ip, ipv := n.ipv, ic := n.ic, sp := n.sp, pc := n.pc, rep := n.rep, cpc := n.cpc }

theorem setInt_intPart (r : Regs) : setInt r (intPart r) = r := rfl
theorem intPart_setInt (r : Regs) (n : IntPart) : intPart (setInt r n) = n := rfl

private theorem setCtx_setInt (r : Regs) (n : IntPart) (m : CtxPart) :
    setCtx (setInt r n) m = setInt (setCtx r m) n := rfl
private theorem getCtx_setInt (r : Regs) (n : IntPart) : getCtx (setInt r n) = getCtx r := rfl
private theorem swapAr_setInt (r : Regs) (n : IntPart) (i : Fin 2) :
    swapArPure (setInt r n) i = setInt (swapArPure r i) n := rfl
private theorem swapArp_setInt (r : Regs) (n : IntPart) (i : Fin 4) :
    swapArpPure (setInt r n) i = setInt (swapArpPure r i) n := rfl
private theorem ssr_setInt (r : Regs) (n : IntPart) :
    shadowSwapRegistersPure (setInt r n) = setInt (shadowSwapRegistersPure r) n := rfl

private theorem shadowSwap_setInt (r : Regs) (n : IntPart) :
    shadowSwapPure (setInt r n) = setInt (shadowSwapPure r) n :=
  shadowSwap_comm (setInt · n) (swapAr_setInt · n) (swapArp_setInt · n) (ssr_setInt · n) r

private theorem ctxApply_setInt (g : CtxPart → CtxPart) (r : Regs) (n : IntPart) :
    ctxApply g (setInt r n) = setInt (ctxApply g r) n := by
  unfold ctxApply; rw [getCtx_setInt, setCtx_setInt]

theorem contextStore_setInt (r : Regs) (n : IntPart) :
    contextStorePure (setInt r n) = setInt (contextStorePure r) n := by
  unfold contextStorePure
  rw [ctxApply_setInt, shadowSwap_setInt, ctxApply_setInt]

theorem contextRestore_setInt (r : Regs) (n : IntPart) :
    contextRestorePure (setInt r n) = setInt (contextRestorePure r) n := by
  unfold contextRestorePure
  rw [ctxApply_setInt, shadowSwap_setInt, ctxApply_setInt]

theorem setInt_setInt (r : Regs) (n m : IntPart) : setInt (setInt r n) m = setInt r m := rfl

/-- A context store and the matching restore with the interrupt registers overwritten before and in
between: the context part makes the round trip of `cntx_r_cntx_s`, the interrupt registers are the
last ones written. -/
theorem contextRestore_setInt_contextStore (r : Regs) (n m : IntPart) :
    contextRestorePure (setInt (contextStorePure (setInt r n)) m) = ctxApply savedSlots (setInt r m) := by
  rw [contextStore_setInt, setInt_setInt, ← contextStore_setInt, cntx_r_cntx_s]

/-! ## the state after an entry -/

/-- The machine after entering line `i` on an ordinary stack, as `entry_pushes_next_pc_ordinary` (C07/Entry) has it
field by field: memory and log of `pushedPC` (CoreBus), the register file of the entry.  `pushedThen` of C07/Entry is
the entry at bus level, before the stack is known to be ordinary. -/
def enteredLine (i : Fin 3) (c : Core) (a1 a2 : U32) : Core :=
  { pushedPC c a1 a2 with regs := entryRegs i c.regs, idle := false }

theorem enterLine_ordinary (i : Fin 3) (c : Core) (a1 a2 : U32)
    (h1 : OrdinaryAt c.bus (c.regs.sp - 1) a1) (h2 : OrdinaryAt c.bus (c.regs.sp - 2) a2) :
    (enterLine i).run c = .ok ((), enteredLine i c a1 a2) :=
  entry_pushes_next_pc_ordinary i c a1 a2 h1 h2

/-! ## entry ; handler ; return -/

theorem condVal_setInt (cv : CondValue) (r : Regs) (n : IntPart) : condVal cv (setInt r n) = condVal cv r :=
  condVal_congr cv rfl

/-- `ContextStore` if `ctx`: the counterpart of `restoreIf`. -/
def storeIf (ctx : Bool) (r : Regs) : Regs := if ctx then contextStorePure r else r

theorem entryRegs_eq (i : Fin 3) (r : Regs) :
    entryRegs i r = storeIf (r.ic.toArray.getD i 0 != 0)
      (setInt r { intPart r with ip := vset r.ip i 0, ie := 0, sp := r.sp - 2, pc := lineVector i }) := rfl

theorem vecEntryRegs_eq (addr : U32) {ctx b : Bool} (h : ctx = b) (r : Regs) :
    vecEntryRegs addr ctx r =
      storeIf b (setInt r { intPart r with ipv := 0, ie := 0, sp := r.sp - 2, pc := addr }) := h ▸ rfl

/-- **Return from interrupt on the state an entry leaves**, for any entry: it has written `n` to the registers of the
interrupt block, with `sp` two below the interrupted one and `cpc` unchanged, and stored the context if `ctx`.
Execution resumes at the interrupted `pc` with the interrupted `sp` and `ie = 1`, the other registers of the block as
the entry left them; `retic` (`ctx`) undoes the context store up to the one-way save slots. -/
theorem return_after_entry (ctx : Bool) (rcond : Nat) (c : Core) (a1 a2 : U32) (n : IntPart)
    (h1 : OrdinaryAt c.bus (c.regs.sp - 1) a1) (h2 : OrdinaryAt c.bus (c.regs.sp - 2) a2)
    (hpc : c.regs.pc.toNat < 0x40000) (hsp : n.sp = c.regs.sp - 2) (hcpc : n.cpc = c.regs.cpc)
    (hr : condVal (Cond.name rcond) (storeIf ctx (setInt c.regs n)) = true) :
    (if ctx then Exec.retic_Cond rcond else Exec.reti_Cond rcond).run
        { pushedPC c a1 a2 with regs := storeIf ctx (setInt c.regs n), idle := false } =
      .ok ((), { afterPushPopPC c a1 a2 with
                 regs := (if ctx then ctxApply savedSlots else id)
                   (setInt c.regs { n with sp := c.regs.sp, pc := c.regs.pc, ie := 1 }), idle := false }) := by
  have hi : intPart (storeIf ctx (setInt c.regs n)) = n := by
    cases ctx
    · rfl
    · exact intPart_contextStore _
  have fr : ReturnFrame ({ pushedPC c a1 a2 with regs := storeIf ctx (setInt c.regs n), idle := false } : Core)
      c.regs.sp c.regs.pc a1 a2 :=
    (pushPC_frame c a1 a2 h1 h2).of_eq ((congrArg IntPart.sp hi).trans hsp) ((congrArg IntPart.cpc hi).trans hcpc)
      rfl rfl rfl
  refine (retiIf_frame ctx rcond _ _ _ _ _ fr hpc hr).trans ?_
  cases ctx
  · rfl
  · exact congrArg (fun R => Except.ok ((), ({ afterPushPopPC c a1 a2 with regs := R, idle := false } : Core)))
      (contextRestore_setInt_contextStore c.regs n { n with sp := c.regs.sp, pc := c.regs.pc, ie := 1 })

/-- **Entry, any handler, `reti`.**  If the handler body (any program), started in the state after
the entry, ends in a state whose `sp`, `cpc`, MIU registers and the two stack words are those it
started with, and the condition of `reti` holds there, then `reti` resumes at the interrupted `pc`
with the interrupted `sp` and `ie = 1`; every other register is as the handler left it. -/
theorem entry_body_reti (i : Fin 3) (body : Exec Unit) (rcond : Nat) (c c2 : Core) (a1 a2 : U32)
    (h1 : OrdinaryAt c.bus (c.regs.sp - 1) a1) (h2 : OrdinaryAt c.bus (c.regs.sp - 2) a2)
    (hpc : c.regs.pc.toNat < 0x40000)
    (hbody : body.run (enteredLine i c a1 a2) = .ok ((), c2))
    (hsp : c2.regs.sp = c.regs.sp - 2) (hcpc : c2.regs.cpc = c.regs.cpc)
    (hmiu : c2.bus.miu = c.bus.miu)
    (hw1 : c2.bus.mem.read (stackCell a1) = (pcWords c.regs).1)
    (hw2 : c2.bus.mem.read (stackCell a2) = (pcWords c.regs).2)
    (hr : condVal (Cond.name rcond) c2.regs = true) :
    (do enterLine i; body; Exec.reti_Cond rcond : Exec Unit).run c =
      .ok ((), { poppedPC c2 c.regs.sp c.regs.pc a1 a2 with
                 regs := { c2.regs with sp := c.regs.sp, pc := c.regs.pc, ie := 1 } }) := by
  rw [run_bind, enterLine_ordinary i c a1 a2 h1 h2, except_ok_bind, run_bind, hbody, except_ok_bind]
  have fr := pushPC_frame c a1 a2 h1 h2
  exact retiIf_frame false rcond c2 _ _ _ _
    (fr.of_eq hsp hcpc hmiu (hw1.trans fr.word1.symm) (hw2.trans fr.word2.symm)) hpc hr

/-- The registers after `enterLine i ; reti` without context switch: the interrupted registers with
the request bit consumed and `ie = 1`. -/
def resumedRegs (i : Fin 3) (r : Regs) : Regs := { r with ip := vset r.ip i 0, ie := 1 }

/-- **Entry followed directly by `reti`, no context switch** (`ic[i] = 0`): execution resumes at
the interrupted `pc` with the interrupted `sp`, `ie = 1`, the request bit `ip[i]` consumed, and
*no other register changed*.  Memory differs only in the two stack slots. -/
theorem entry_reti_roundtrip (i : Fin 3) (rcond : Nat) (c : Core) (a1 a2 : U32)
    (h1 : OrdinaryAt c.bus (c.regs.sp - 1) a1) (h2 : OrdinaryAt c.bus (c.regs.sp - 2) a2)
    (hpc : c.regs.pc.toNat < 0x40000)
    (hic : c.regs.ic.toArray.getD i 0 = 0)
    (hr : condVal (Cond.name rcond) c.regs = true) :
    (do enterLine i; Exec.reti_Cond rcond : Exec Unit).run c =
      .ok ((), { afterPushPopPC c a1 a2 with regs := resumedRegs i c.regs, idle := false }) := by
  rw [run_bind, enterLine_ordinary i c a1 a2 h1 h2, except_ok_bind, enteredLine, entryRegs_eq, hic]
  exact return_after_entry false rcond c a1 a2 _ h1 h2 hpc rfl rfl ((condVal_setInt _ _ _).trans hr)

/-- If interrupts were enabled as the hardware has it (`ie = 1`; an entry needs `ie ≠ 0`) the only
register that differs after `entry ; reti` is the consumed request bit. -/
theorem resumedRegs_of_ie (i : Fin 3) (r : Regs) (hie : r.ie = 1) :
    resumedRegs i r = { r with ip := vset r.ip i 0 } := by
  unfold resumedRegs; rw [← hie]

/-- **Entry with context switch followed by `retic`** (`ic[i] ≠ 0`): execution resumes at the
interrupted `pc` with the interrupted `sp`, `ie = 1`, the request bit consumed, and every
program-visible register and every two-way bank as it was; only the hidden one-way save slots
(`sh_*`, `repcs`, `a1s`, `b1s`: `savedSlots`) have taken the saved values. -/
theorem entry_retic_roundtrip (i : Fin 3) (rcond : Nat) (c : Core) (a1 a2 : U32)
    (h1 : OrdinaryAt c.bus (c.regs.sp - 1) a1) (h2 : OrdinaryAt c.bus (c.regs.sp - 2) a2)
    (hpc : c.regs.pc.toNat < 0x40000)
    (hic : c.regs.ic.toArray.getD i 0 ≠ 0)
    (hr : condVal (Cond.name rcond) (entryRegs i c.regs) = true) :
    (do enterLine i; Exec.retic_Cond rcond : Exec Unit).run c =
      .ok ((), { afterPushPopPC c a1 a2 with
                 regs := ctxApply savedSlots (resumedRegs i c.regs), idle := false }) := by
  rw [entryRegs_eq, bne_iff_ne.mpr hic] at hr
  rw [run_bind, enterLine_ordinary i c a1 a2 h1 h2, except_ok_bind, enteredLine, entryRegs_eq, bne_iff_ne.mpr hic]
  exact return_after_entry true rcond c a1 a2 _ h1 h2 hpc rfl rfl hr

/-- The same two statements for the vectored interrupt (context switch = the latched
`vinterrupt_context_switch`). -/
theorem vectored_entry_reti_roundtrip (rcond : Nat) (c : Core) (a1 a2 : U32)
    (h1 : OrdinaryAt c.bus (c.regs.sp - 1) a1) (h2 : OrdinaryAt c.bus (c.regs.sp - 2) a2)
    (hpc : c.regs.pc.toNat < 0x40000) (hctx : c.vctx = false)
    (hr : condVal (Cond.name rcond) c.regs = true) :
    (do enterVectored; Exec.reti_Cond rcond : Exec Unit).run c =
      .ok ((), { afterPushPopPC c a1 a2 with regs := { c.regs with ipv := 0, ie := 1 }, idle := false }) := by
  rw [run_bind, vectored_entry_pushes_next_pc_ordinary c a1 a2 h1 h2, except_ok_bind, vecEntryRegs_eq _ hctx]
  exact return_after_entry false rcond c a1 a2 _ h1 h2 hpc rfl rfl ((condVal_setInt _ _ _).trans hr)

theorem vectored_entry_retic_roundtrip (rcond : Nat) (c : Core) (a1 a2 : U32)
    (h1 : OrdinaryAt c.bus (c.regs.sp - 1) a1) (h2 : OrdinaryAt c.bus (c.regs.sp - 2) a2)
    (hpc : c.regs.pc.toNat < 0x40000) (hctx : c.vctx = true)
    (hr : condVal (Cond.name rcond) (vecEntryRegs c.vaddr c.vctx c.regs) = true) :
    (do enterVectored; Exec.retic_Cond rcond : Exec Unit).run c =
      .ok ((), { afterPushPopPC c a1 a2 with
                 regs := ctxApply savedSlots { c.regs with ipv := 0, ie := 1 }, idle := false }) := by
  rw [vecEntryRegs_eq _ hctx] at hr
  rw [run_bind, vectored_entry_pushes_next_pc_ordinary c a1 a2 h1 h2, except_ok_bind, vecEntryRegs_eq _ hctx]
  exact return_after_entry true rcond c a1 a2 _ h1 h2 hpc rfl rfl hr

/-- What `ctxApply savedSlots` leaves alone: every register that is not a one-way save slot. -/
theorem savedSlots_visible (r : Regs) :
    let r' := ctxApply savedSlots r
    r'.pc = r.pc ∧ r'.sp = r.sp ∧ r'.ie = r.ie ∧ r'.a = r.a ∧ r'.b = r.b ∧ r'.repc = r.repc ∧
    r'.flm = r.flm ∧ r'.fvl = r.fvl ∧ r'.fe = r.fe ∧ r'.fc0 = r.fc0 ∧ r'.fc1 = r.fc1 ∧ r'.fv = r.fv ∧
    r'.fn = r.fn ∧ r'.fm = r.fm ∧ r'.fz = r.fz ∧ r'.fr = r.fr ∧
    r'.r = r.r ∧ r'.x = r.x ∧ r'.y = r.y ∧ r'.p = r.p ∧ r'.sv = r.sv ∧
    { r' with sh_flm := r.sh_flm, sh_fvl := r.sh_fvl, sh_fe := r.sh_fe, sh_fc0 := r.sh_fc0,
              sh_fc1 := r.sh_fc1, sh_fv := r.sh_fv, sh_fn := r.sh_fn, sh_fm := r.sh_fm, sh_fz := r.sh_fz,
              sh_fr := r.sh_fr, repcs := r.repcs, a1s := r.a1s, b1s := r.b1s } = r := by
  refine ⟨rfl, rfl, rfl, rfl, rfl, rfl, rfl, rfl, rfl, rfl, rfl, rfl, rfl, rfl, rfl, rfl, rfl, rfl, rfl, rfl, rfl, ?_⟩
  cases r; rfl

end Teakra
