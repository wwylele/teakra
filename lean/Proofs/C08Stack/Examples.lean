import Proofs.C08Stack.Interrupt
import Proofs.C08Stack.StatusPush
import Proofs.C08Stack.Acc
import Proofs.C08Stack.Cycle
/-!
# C08 — non-vacuity: the hypotheses of the main theorems hold in concrete states

The reset MIU (`page_mode = 0`, `z_page = 0`, MMIO window at `0x8000`), `sp = 0x1000`: the stack
slots `0x0FFF`, `0x0FFE` are the memory words `0x20FFF`, `0x20FFE`.
-/
namespace Teakra
open Teakra Exec ExecLemmas Interp Sys RegName

/-- A concrete machine: reset peripherals, `sp = 0x1000`, `pc = 0x1234`, given register tweaks. -/
def exCore (r : Regs) : Core := { regs := { r with sp := 0x1000, pc := 0x1234 } }

theorem ex_ord1 (r : Regs) : OrdinaryAt (exCore r).bus ((exCore r).regs.sp - 1) 0x20FFF := by
  show OrdinaryAt ({} : Bus) (0x1000 - 1) 0x20FFF
  exact ⟨by decide, rfl, by decide⟩
theorem ex_ord2 (r : Regs) : OrdinaryAt (exCore r).bus ((exCore r).regs.sp - 2) 0x20FFE := by
  show OrdinaryAt ({} : Bus) (0x1000 - 2) 0x20FFE
  exact ⟨by decide, rfl, by decide⟩

/-- one word -/
example : (do pushWord 0xBEEF; popWord : Exec U16).run (exCore {}) =
    .ok (0xBEEF, afterPushPop (exCore {}) 0x20FFF 0xBEEF) :=
  push_pop_word (exCore {}) 0xBEEF 0x20FFF (ex_ord1 {})

/-- `PushPC ; PopPC`, both word orders (`cpc = 1` is the reset value) -/
example : (do pushPC; popPC : Exec Unit).run (exCore { cpc := 1 }) =
    .ok ((), afterPushPopPC (exCore { cpc := 1 }) 0x20FFF 0x20FFE) :=
  pushPC_popPC _ _ _ (ex_ord1 _) (ex_ord2 _) (by decide)
example : (do pushPC; popPC : Exec Unit).run (exCore { cpc := 0 }) =
    .ok ((), afterPushPopPC (exCore { cpc := 0 }) 0x20FFF 0x20FFE) :=
  pushPC_popPC _ _ _ (ex_ord1 _) (ex_ord2 _) (by decide)
/-- the words on the stack differ between the two orders -/
example : pcWords (exCore { cpc := 1 }).regs = (0, 0x1234) ∧ pcWords (exCore { cpc := 0 }).regs = (0x1234, 0) := by
  decide +kernel

/-- every call form, then `ret` (condition `true`); `call`, then `rets 3` -/
example (f : CallForm) (hf : f.taken (exCore {}).regs = true) :
    (do f.exec; Exec.ret_Cond 0 : Exec Unit).run (exCore {}) =
      .ok ((), afterPushPopPC (exCore {}) 0x20FFF 0x20FFE) :=
  call_ret_roundtrip f 0 _ _ _ (ex_ord1 _) (ex_ord2 _) (by decide) hf rfl
example : (CallForm.call 0x4321 1 0).taken (exCore {}).regs = true ∧
    (CallForm.callr 5 0).taken (exCore {}).regs = true ∧
    (CallForm.callaAxl 0).taken (exCore {}).regs = true ∧ (CallForm.callaAx 1).taken (exCore {}).regs = true := by
  decide +kernel
example : (do (CallForm.call 0x4321 1 0).exec; Exec.rets_Imm8 3 : Exec Unit).run (exCore {}) =
    .ok ((), { afterPushPopPC (exCore {}) 0x20FFF 0x20FFE with
               regs := { (exCore {}).regs with sp := (exCore {}).regs.sp + imm16 3 } }) :=
  call_rets_roundtrip _ 3 _ _ _ (ex_ord1 _) (ex_ord2 _) (by decide) rfl
/-- a conditional call / return whose condition (`eq`, with `fz = 0`) fails does nothing -/
example : (Exec.call_Address18_16_Address18_2_Cond 0x4321 1 1).run (exCore {}) = .ok ((), exCore {}) :=
  call_cond_false _ _ _ _ (by decide)
example : (Exec.ret_Cond 1).run (exCore {}) = .ok ((), exCore {}) := ret_cond_false _ _ (by decide)

/-- interrupt entry of line 1 followed by `reti`, no context switch -/
example : (do enterLine 1; Exec.reti_Cond 0 : Exec Unit).run (exCore { ie := 1, ip := #v[0, 1, 0] }) =
    .ok ((), { afterPushPopPC (exCore { ie := 1, ip := #v[0, 1, 0] }) 0x20FFF 0x20FFE with
               regs := resumedRegs 1 (exCore { ie := 1, ip := #v[0, 1, 0] }).regs, idle := false }) :=
  entry_reti_roundtrip 1 0 _ _ _ (ex_ord1 _) (ex_ord2 _) (by decide) (by decide) rfl

/-- interrupt entry with context switch (`ic[1] = 1`) followed by `retic` -/
example : (do enterLine 1; Exec.retic_Cond 0 : Exec Unit).run
      (exCore { ie := 1, ip := #v[0, 1, 0], ic := #v[0, 1, 0] }) =
    .ok ((), { afterPushPopPC (exCore { ie := 1, ip := #v[0, 1, 0], ic := #v[0, 1, 0] }) 0x20FFF 0x20FFE with
               regs := ctxApply savedSlots (resumedRegs 1 (exCore { ie := 1, ip := #v[0, 1, 0], ic := #v[0, 1, 0] }).regs),
               idle := false }) :=
  entry_retic_roundtrip 1 0 _ _ _ (ex_ord1 _) (ex_ord2 _) (by decide) (by decide) rfl

/-- plain registers: `push r3 ; pop r3`, `push sp ; pop sp`, `push lc ; pop lc` inside a loop -/
example : (do Exec.push_Register 3; Exec.pop_Register 3 : Exec Unit).run (exCore { r := #v[1, 2, 3, 4, 5, 6, 7, 8] }) =
    .ok ((), afterPushPop (exCore { r := #v[1, 2, 3, 4, 5, 6, 7, 8] }) 0x20FFF 4) :=
  push_pop_register 3 rfl _ _ (ex_ord1 _)
example : (do Exec.push_Register 13; Exec.pop_Register 13 : Exec Unit).run (exCore {}) =
    .ok ((), afterPushPop (exCore {}) 0x20FFF 0x1000) :=
  push_pop_register 13 rfl _ _ (ex_ord1 _)
example : (do Exec.push_Register 30; Exec.pop_Register 30 : Exec Unit).run (exCore { lp := 1, bcn := 2 }) =
    .ok ((), afterPushPop (exCore { lp := 1, bcn := 2 }) 0x20FFF 0) :=
  push_pop_register 30 rfl _ _ (ex_ord1 _)

/-- status words: `push st0 ; pop st0`, `push mod0 ; pop mod0`, `push stt2 ; pop stt2` -/
theorem ex_fits (w : String) (hw : w ∈ pseudoWords) : WordFits (exCore {}).regs (layoutOf w) := by
  revert w; decide +kernel
example : (do Exec.push_Register 8; Exec.pop_Register 8 : Exec Unit).run (exCore {}) =
    .ok ((), afterPushPop (exCore {}) 0x20FFF (wordGet (layoutOf "st0") (exCore {}).regs)) :=
  push_pop_status_register 8 "st0" rfl _ _ (ex_ord1 _) (ex_fits _ (by decide))
    ⟨fun _ => (by decide), fun h => absurd h (by decide), fun h => absurd h (by decide)⟩
example : (do Exec.push_ArArpSttMod 12; Exec.pop_ArArpSttMod 12 : Exec Unit).run (exCore {}) =
    .ok ((), afterPushPop (exCore {}) 0x20FFF (wordGet (layoutOf "mod0") (exCore {}).regs)) :=
  push_pop_status_arArpSttMod 12 "mod0" rfl _ _ (ex_ord1 _) (ex_fits _ (by decide))
    ⟨fun h => absurd h (by decide), fun h => absurd h (by decide), fun h => absurd h (by decide)⟩
example : (do Exec.push_ArArpSttMod 10; Exec.pop_ArArpSttMod 10 : Exec Unit).run (exCore {}) =
    .ok ((), afterPushPop (exCore {}) 0x20FFF (wordGet (layoutOf "stt2") (exCore {}).regs)) :=
  push_pop_status_arArpSttMod 10 "stt2" rfl _ _ (ex_ord1 _) (ex_fits _ (by decide))
    ⟨fun h => absurd h (by decide), fun h => absurd h (by decide), fun _ => rfl⟩

/-- `pusha a0 ; popa a0` (operands `Ax 0`, `Ab 2`) with a 32-bit value -/
example : (do Exec.pusha_Ax 0; Exec.popa_Ab 2 : Exec Unit).run (exCore { a := #v[0xFFFFFFFF80001234, 0] }) =
    .ok ((), { afterPushPop2 (exCore { a := #v[0xFFFFFFFF80001234, 0] }) 0x20FFF 0x20FFE 0x1234 0x8000 with
               regs := withAccFlags (exCore { a := #v[0xFFFFFFFF80001234, 0] }).regs 0xFFFFFFFF80001234 }) :=
  pusha_popa_restores (Ax.name 0) 2 false 0 rfl rfl _ _ _ (ex_ord1 _) (ex_ord2 _) (by decide)

/-- `push p1 ; pop p1` -/
example : (do Exec.push_Px 1; Exec.pop_Px 1 : Exec Unit).run (exCore { p := #v[0, 0x87654321], pe := #v[0, 1] }) =
    .ok ((), afterPushPop2 (exCore { p := #v[0, 0x87654321], pe := #v[0, 1] }) 0x20FFF 0x20FFE 0x4321 0x8765) :=
  push_px_pop_px_restores 1 _ _ _ (ex_ord1 _) (ex_ord2 _) (by decide) (by decide)

/-- `push b1e ; pop b1e`, saturation disabled -/
example : (do Exec.push_Abe 1; Exec.pop_Abe 1 : Exec Unit).run (exCore { b := #v[0, 0x7F12345678], sat := 1 }) =
    .ok ((), { afterPushPop (exCore { b := #v[0, 0x7F12345678], sat := 1 }) 0x20FFF 0x7F with
               regs := withAccFlags (exCore { b := #v[0, 0x7F12345678], sat := 1 }).regs 0x7F12345678 }) :=
  push_abe_pop_abe_restores 1 true 1 rfl _ _ (ex_ord1 _) (by decide) (by decide)

/-- `push a1h ; pop a1h` (operand 29), saturation disabled: the part and `sp` come back -/
example : ∃ c', (do Exec.push_Register 29; Exec.pop_Register 29 : Exec Unit).run
      (exCore { a := #v[0, 0x12345678], sat := 1 }) = .ok ((), c') ∧
    readPart .high (accOf c'.regs false 1) = readPart .high (accOf (exCore { a := #v[0, 0x12345678], sat := 1 }).regs false 1) ∧
    c'.regs.sp = 0x1000 := by
  obtain ⟨c', h, hv, hsp, _⟩ := push_pop_acc_part_value 29 .high false 1 rfl
    (exCore { a := #v[0, 0x12345678], sat := 1 }) _ (ex_ord1 _) (by decide)
  exact ⟨c', h, hv, hsp⟩

/-- a two-word `call 0x14321` at `pc₀ = 0x1234` executed by the loop body: the frame on the
stack is that of `pc₀ + 2`. -/
def exCallCore : Core :=
  { regs := { sp := 0x1000, pc := 0x1234 }
    bus := { mem := (({} : Mem).write 0x1234 0x41D0).write 0x1235 0x4321 } }

example :
    execPhase.run exCallCore = .ok ((),
      calledAt { exCallCore with regs := bumpPc (bumpPc exCallCore.regs),
                                 log := [⟨0x246A, false, 0⟩].reverse ++ ([⟨0x2468, false, 0⟩].reverse ++ exCallCore.log) }
        0x20FFF 0x20FFE (address18 0x4321 1)) ∧
    ReturnFrame
      (calledAt { exCallCore with regs := bumpPc (bumpPc exCallCore.regs),
                                  log := [⟨0x246A, false, 0⟩].reverse ++ ([⟨0x2468, false, 0⟩].reverse ++ exCallCore.log) }
        0x20FFF 0x20FFE (address18 0x4321 1))
      0x1000 (0x1234 + 1 + 1) 0x20FFF 0x20FFE := by
  have r1 : exCallCore.bus.programRead (fetchAddress exCallCore.regs) =
      .ok (BitVec.ofNat 16 (0x41C0 + (16 : Fin 64).val), [⟨0x2468, false, 0⟩]) := by
    have h := Bus.programRead_cell exCallCore.bus 0x1234 0x1234 (by decide)
    rw [show fetchAddress exCallCore.regs = 0x1234 by decide, h]
    show Except.ok ((((({} : Mem).write 0x1234 0x41D0).write 0x1235 0x4321).read 0x1234), _) = _
    rw [Bus.Mem.read_write, if_neg (by decide), Bus.Mem.read_write, if_pos rfl]
    rfl
  have r2 : exCallCore.bus.programRead (fetchAddress (bumpPc exCallCore.regs)) =
      .ok (0x4321, [⟨0x246A, false, 0⟩]) := by
    have h := Bus.programRead_cell exCallCore.bus 0x1235 0x1235 (by decide)
    rw [show fetchAddress (bumpPc exCallCore.regs) = 0x1235 by decide, h]
    show Except.ok ((((({} : Mem).write 0x1234 0x41D0).write 0x1235 0x4321).read 0x1235), _) = _
    rw [Bus.Mem.read_write, if_pos rfl]
    rfl
  exact execPhase_call exCallCore 16 0x4321 _ _ 0x20FFF 0x20FFE r1 r2 rfl rfl rfl
    ⟨by decide, rfl, by decide⟩ ⟨by decide, rfl, by decide⟩

end Teakra
