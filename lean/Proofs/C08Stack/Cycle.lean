import Proofs.C08Stack.CallRet
import Proofs.Lemmas.Decoder
/-!
# C08 — the `pc` a call pushes is the address of the instruction after the call

In the loop body (`cycle = latch phase ; execPhase ; interruptCheck`, `Proofs/Cycle.lean`) the
opcode fetch — and for the two-word `call addr18` the expansion fetch — increments `pc` *before*
the handler runs.  So the handler of a call at address `pc₀` starts with `pc = pc₀ + 1` (one-word
forms) or `pc₀ + 2` (`call addr18`), and that is the value `PushPC` stores and `ret` restores.
-/
namespace Teakra
open Teakra Exec ExecLemmas Interp Sys

/-! ## the instruction part of the loop body on a one-word / two-word instruction, outside a `rep`
and outside a hardware loop: just the handler -/

theorem execPhase_plain (c : Core) (w : U16) (accs : List Access) (p : InstrPat)
    (hread : c.bus.programRead (fetchAddress c.regs) = .ok (w, accs))
    (hdec : decoderArray.getD w.toNat none = some p) (hexp : p.expanded = false)
    (hrep : c.regs.rep = false) (hlp : c.regs.lp = 0) :
    execPhase.run c =
      (dispatch p.idx (p.extract w.toNat 0)).run
        { c with regs := bumpPc c.regs, log := accs.reverse ++ c.log } := by
  rw [execPhase_run, fetch_one c w accs p hread hdec hexp]
  exact booked_off _ _ hrep hlp

theorem execPhase_expanded (c : Core) (w e : U16) (accs accs2 : List Access) (p : InstrPat)
    (hread : c.bus.programRead (fetchAddress c.regs) = .ok (w, accs))
    (hread2 : c.bus.programRead (fetchAddress (bumpPc c.regs)) = .ok (e, accs2))
    (hdec : decoderArray.getD w.toNat none = some p) (hexp : p.expanded = true)
    (hrep : c.regs.rep = false) (hlp : c.regs.lp = 0) :
    execPhase.run c =
      (dispatch p.idx (p.extract w.toNat e.toNat)).run
        { c with regs := bumpPc (bumpPc c.regs), log := accs2.reverse ++ (accs.reverse ++ c.log) } := by
  rw [execPhase_run, fetch_two c w e accs accs2 p hread hdec hexp hread2]
  exact booked_off _ _ hrep hlp

/-! ## the decoder on `call addr18, cond` (`0x41C0 | hi << 4 | cond`) and `ret cond` (`0x4580 | cond`) -/

/-- A word `0x41C0 + k`, `k < 64`, decodes to table entry 107 (`call Address18_16, Address18_2,
Cond`), two words, operands: the second word, bits 4..5, bits 0..3. -/
theorem decode_call (k : Fin 64) :
    ∃ p, decoderArray.getD (0x41C0 + k.val) none = some p ∧ p.idx = 107 ∧ p.expanded = true ∧
      ∀ e, p.extract (0x41C0 + k.val) e = [e % 2 ^ 16, k.val / 16, k.val % 16] := by
  refine ⟨_, decoderArray_of_matches (List.mem_of_getElem? (i := 107) rfl) (by omega)
    (InstrPat.matches_add 6 k.isLt rfl rfl rfl rfl), rfl, rfl, fun e => ?_⟩
  have e1 : ((0x41C0 + k.val) >>> 4) % 2 ^ 2 = k.val / 16 := by rw [Nat.shiftRight_eq_div_pow]; omega
  simp [InstrPat.extract, e1]
  omega

theorem decode_ret (k : Fin 16) :
    ∃ p, decoderArray.getD (0x4580 + k.val) none = some p ∧ p.idx = 113 ∧ p.expanded = false ∧
      p.extract (0x4580 + k.val) 0 = [k.val] := by
  refine ⟨_, decoderArray_of_matches (List.mem_of_getElem? (i := 113) rfl) (by omega)
    (InstrPat.matches_add 4 k.isLt rfl rfl rfl rfl), rfl, rfl, ?_⟩
  simp [InstrPat.extract]
  omega

theorem dispatch_107 (o : List Nat) :
    dispatch 107 o = Exec.call_Address18_16_Address18_2_Cond (o.getD 0 0) (o.getD 1 0) (o.getD 2 0) := rfl
theorem dispatch_113 (o : List Nat) : dispatch 113 o = Exec.ret_Cond (o.getD 0 0) := rfl

/-- **A `call addr18, cond` executed by the loop body.**  The call sits at `pc₀ = c.regs.pc`
(words `0x41C0 + k` and `e`), no `rep` and no hardware loop is active, its condition holds, and the
two stack slots below `sp` are ordinary memory.  Then the instruction part of the loop body ends in
the state `calledAt` of a call made with `pc = pc₀ + 2`: the stack holds the frame of
**`pc₀ + 2`, the address of the instruction after the two-word call**, pushed from the caller's
`sp`; `pc` is the target `e | (k / 16) << 16`. -/
theorem execPhase_call (c : Core) (k : Fin 64) (e : U16) (accs accs2 : List Access) (a1 a2 : U32)
    (hread : c.bus.programRead (fetchAddress c.regs) = .ok (BitVec.ofNat 16 (0x41C0 + k.val), accs))
    (hread2 : c.bus.programRead (fetchAddress (bumpPc c.regs)) = .ok (e, accs2))
    (hrep : c.regs.rep = false) (hlp : c.regs.lp = 0)
    (hcond : condVal (Cond.name (k.val % 16)) c.regs = true)
    (h1 : OrdinaryAt c.bus (c.regs.sp - 1) a1) (h2 : OrdinaryAt c.bus (c.regs.sp - 2) a2) :
    execPhase.run c = .ok ((),
      calledAt { c with regs := bumpPc (bumpPc c.regs), log := accs2.reverse ++ (accs.reverse ++ c.log) }
        a1 a2 (address18 e.toNat (k.val / 16))) ∧
    ReturnFrame
      (calledAt { c with regs := bumpPc (bumpPc c.regs), log := accs2.reverse ++ (accs.reverse ++ c.log) }
        a1 a2 (address18 e.toNat (k.val / 16)))
      c.regs.sp (c.regs.pc + 1 + 1) a1 a2 := by
  obtain ⟨p, hdec, hidx, hexp, hext⟩ := decode_call k
  have hw : (BitVec.ofNat 16 (0x41C0 + k.val) : U16).toNat = 0x41C0 + k.val := toNat_ofNat16 _ (by omega)
  have hmod : e.toNat % 2 ^ 16 = e.toNat := Nat.mod_eq_of_lt e.isLt
  constructor
  · rw [execPhase_expanded c _ e accs accs2 p hread hread2 (by rw [hw]; exact hdec) hexp hrep hlp,
      hw, hext, hidx, dispatch_107]
    simp only [List.getD_cons_zero, List.getD_cons_succ, hmod]
    rw [call_run, if_pos (by show condVal _ (bumpPc (bumpPc c.regs)) = true; rw [bumpPc, condVal_pc, bumpPc, condVal_pc]; exact hcond)]
    exact callTo_ordinary _ a1 a2 _ h1 h2
  · exact (calledAt_frame { c with regs := bumpPc (bumpPc c.regs), log := accs2.reverse ++ (accs.reverse ++ c.log) }
      a1 a2 _ h1 h2).1

/-- **A `ret cond` executed by the loop body on a return frame**: the next instruction fetched is
the one at the pushed address, with the caller's `sp`. -/
theorem execPhase_ret (c : Core) (k : Fin 16) (accs : List Access) (sp : U16) (pc a1 a2 : U32)
    (hread : c.bus.programRead (fetchAddress c.regs) = .ok (BitVec.ofNat 16 (0x4580 + k.val), accs))
    (hrep : c.regs.rep = false) (hlp : c.regs.lp = 0)
    (hcond : condVal (Cond.name k.val) c.regs = true)
    (hfr : ReturnFrame c sp pc a1 a2) (hpc : pc.toNat < 0x40000) :
    execPhase.run c = .ok ((),
      poppedPC { c with regs := bumpPc c.regs, log := accs.reverse ++ c.log } sp pc a1 a2) := by
  obtain ⟨p, hdec, hidx, hexp, hext⟩ := decode_ret k
  have hw : (BitVec.ofNat 16 (0x4580 + k.val) : U16).toNat = 0x4580 + k.val := toNat_ofNat16 _ (by omega)
  rw [execPhase_plain c _ accs p hread (by rw [hw]; exact hdec) hexp hrep hlp, hw, hext, hidx, dispatch_113]
  simp only [List.getD_cons_zero]
  have hfr' : ReturnFrame ({ c with regs := bumpPc c.regs, log := accs.reverse ++ c.log } : Core) sp pc a1 a2 :=
    hfr.of_eq rfl rfl rfl rfl rfl
  exact ret_frame k.val _ sp pc a1 a2 hfr' hpc ((condVal_pc _ _ _).trans hcond)

end Teakra
