import Proofs.C08Stack.StatusPush
/-!
# C08 — `st0` and `st1` without their side conditions

`push st0 ; pop st0` (resp. `st1`) under the width invariant alone: the register file becomes the
*normal form* `st0Norm r` (`flm` and `fvl` both `flm | fvl`; bits 36..63 of `a0` copies of bit 35)
resp. `st1Norm r` (bits 36..63 of `a1` copies of bit 35), and the word itself reads back
unchanged — "restores that value" holds for the word even where the registers behind it change.
-/
namespace Teakra
open Teakra Exec ExecLemmas Interp Sys RegName
open Teakra.Regs (Slot)

theorem slotSet_of_slotGet_eq (r r' : Regs) (s : Slot) (hk : s.kind = .rw ∨ s.kind = .ro)
    (hg : slotGet r' s = slotGet r s) : slotSet r' s (slotGet r s) = r' := by
  rw [← hg]; exact slotSet_slotGet_plain r' s hk

theorem layout_st0 : layoutOf "st0" =
    [⟨.rw, "sat", 0, "", 0, 1⟩, ⟨.rw, "ie", 0, "", 1, 1⟩, ⟨.rw, "im", 0, "", 2, 1⟩, ⟨.rw, "im", 1, "", 3, 1⟩,
     ⟨.rw, "fr", 0, "", 4, 1⟩, ⟨.double, "flm", 0, "fvl", 5, 1⟩, ⟨.rw, "fe", 0, "", 6, 1⟩, ⟨.rw, "fc0", 0, "", 7, 1⟩,
     ⟨.rw, "fv", 0, "", 8, 1⟩, ⟨.rw, "fn", 0, "", 9, 1⟩, ⟨.rw, "fm", 0, "", 10, 1⟩, ⟨.rw, "fz", 0, "", 11, 1⟩,
     ⟨.accE, "a", 0, "", 12, 4⟩] := by
  decide +kernel

theorem layout_st1 : layoutOf "st1" =
    [⟨.rw, "page", 0, "", 0, 8⟩, ⟨.rw, "ps", 0, "", 10, 2⟩, ⟨.accE, "a", 1, "", 12, 4⟩] := by
  decide +kernel

def st0Norm (r : Regs) : Regs :=
  { r with flm := r.flm ||| r.fvl, fvl := r.flm ||| r.fvl, a := r.a.set 0 (accENorm r.a[0]) }

def st1Norm (r : Regs) : Regs := { r with a := r.a.set 1 (accENorm r.a[1]) }

theorem st0_set_get (r : Regs) (hf : WordFits r (layoutOf "st0")) :
    wordSet (layoutOf "st0") r (wordGet (layoutOf "st0") r) = st0Norm r := by
  rw [wordSet_wordGet_fold r (pseudoWords_slots "st0" (by decide)).1 hf, layout_st0]
  -- `rw`, not `simp only`: simp proves these steps by `rfl`, which the kernel re-checks by evaluating the slots
  repeat rw [List.foldl_cons]
  rw [List.foldl_nil]
  -- the five slots before `flm|fvl` write back what they read
  iterate 5 rw [slotSet_slotGet_plain r _ (.inl rfl)]
  -- `flm|fvl` sets both flags; the six flag slots after it still read what they read in `r`
  generalize hr1 : slotSet r ⟨.double, "flm", 0, "fvl", 5, 1⟩ (slotGet r ⟨.double, "flm", 0, "fvl", 5, 1⟩) = r1
  have e1 : r1 = { r with flm := r.flm ||| r.fvl, fvl := r.flm ||| r.fvl } := by
    rw [← hr1]
    -- one `setF` at a time: `rfl` against the double update evaluates both name matches for every field
    show ({ ({ r with flm := _ } : Regs) with fvl := _ } : Regs) = _
    rfl
  iterate 6 rw [slotSet_of_slotGet_eq r r1 _ (.inl rfl) (by rw [e1]; rfl)]
  rw [show slotGet r ⟨.accE, "a", 0, "", 12, 4⟩ = slotGet r1 ⟨.accE, "a", 0, "", 12, 4⟩ by rw [e1]; rfl,
    accE_set_get r1 0 (by decide), e1]
  rfl

theorem st1_set_get (r : Regs) (hf : WordFits r (layoutOf "st1")) :
    wordSet (layoutOf "st1") r (wordGet (layoutOf "st1") r) = st1Norm r := by
  rw [wordSet_wordGet_fold r (pseudoWords_slots "st1" (by decide)).1 hf, layout_st1]
  repeat rw [List.foldl_cons]
  rw [List.foldl_nil]
  iterate 2 rw [slotSet_slotGet_plain r _ (.inl rfl)]
  exact accE_set_get r 1 (by decide)

/-! ## the word reads the same on the normal form -/

private theorem and_mask4_bit64' (x : U64) (i : Nat) :
    (x &&& ((15 : Nat) : U64)).getLsbD i = (x.getLsbD i && decide (i < 4)) :=
  getLsbD_and_lowMask 4 x i

theorem accENorm_nibble (a : U64) :
    ((((accENorm a) >>> 32) &&& 0xF).setWidth 16 : U16) = (((a >>> 32) &&& 0xF).setWidth 16 : U16) := by
  apply BitVec.eq_of_getLsbD_eq
  intro i hi
  simp only [BitVec.getLsbD_setWidth, and_mask4_bit64, BitVec.getLsbD_ushiftRight]
  by_cases h4 : i < 4
  · rw [accENorm_bit a _ (by omega), show min (32 + i) 35 = 32 + i by omega]
  · simp [h4]

theorem accENorm_idem (a : U64) : accENorm (accENorm a) = accENorm a := by
  apply BitVec.eq_of_getLsbD_eq
  intro i hi
  rw [accENorm_bit _ i hi, accENorm_bit a _ (by omega), accENorm_bit a i hi, Nat.min_assoc, Nat.min_self]

theorem wordGet_congr (slots : List Slot) (r r' : Regs) (h : ∀ s ∈ slots, slotGet r' s = slotGet r s) :
    wordGet slots r' = wordGet slots r := by
  unfold wordGet
  congr 1
  apply foldl_congr_mem
  intro s hs acc
  rw [h s hs]

theorem slotGet_accE_norm (r r' : Regs) (i : Nat) (h : i < 2) (ha : r'.a = r.a.set i (accENorm r.a[i])) :
    slotGet r' ⟨.accE, "a", i, "", 12, 4⟩ = slotGet r ⟨.accE, "a", i, "", 12, 4⟩ := by
  show (((r'.a.toArray.getD i 0 >>> 32) &&& 0xF).setWidth 16 : U16) =
    (((r.a.toArray.getD i 0 >>> 32) &&& 0xF).setWidth 16 : U16)
  rw [ha, toArray_getD _ i h, toArray_getD _ i h, Vector.getElem_set_self, accENorm_nibble]

theorem st0_word_restored (r : Regs) : wordGet (layoutOf "st0") (st0Norm r) = wordGet (layoutOf "st0") r := by
  apply wordGet_congr
  simp only [layout_st0, List.mem_cons, List.mem_nil_iff, or_false, forall_eq_or_imp, forall_eq]
  refine ⟨rfl, rfl, rfl, rfl, rfl, ?_, rfl, rfl, rfl, rfl, rfl, rfl, slotGet_accE_norm r _ 0 (by decide) rfl⟩
  show (r.flm ||| r.fvl) ||| (r.flm ||| r.fvl) = r.flm ||| r.fvl
  rw [BitVec.or_self]

theorem st1_word_restored (r : Regs) : wordGet (layoutOf "st1") (st1Norm r) = wordGet (layoutOf "st1") r := by
  apply wordGet_congr
  simp only [layout_st1, List.mem_cons, List.mem_nil_iff, or_false, forall_eq_or_imp, forall_eq]
  exact ⟨rfl, rfl, slotGet_accE_norm r _ 1 (by decide) rfl⟩

/-- **`push st0 ; pop st0` under the width invariant alone** (`partial`: the registers become the
normal form; the word and `sp` are restored). -/
theorem push_pop_st0_partial (c : Core) (conv : U32) (ho : OrdinaryAt c.bus (c.regs.sp - 1) conv)
    (hf : WordFits c.regs (layoutOf "st0")) :
    ∃ c', (do Exec.push_Register 8; Exec.pop_Register 8 : Exec Unit).run c = .ok ((), c') ∧
      c'.regs = st0Norm c.regs ∧
      wordGet (layoutOf "st0") c'.regs = wordGet (layoutOf "st0") c.regs ∧ c'.regs.sp = c.regs.sp := by
  have h := push_pop_pseudo_register 8 "st0" rfl c conv ho
  rw [st0_set_get c.regs hf] at h
  exact ⟨_, h, rfl, st0_word_restored _, rfl⟩

theorem push_pop_st1_partial (c : Core) (conv : U32) (ho : OrdinaryAt c.bus (c.regs.sp - 1) conv)
    (hf : WordFits c.regs (layoutOf "st1")) :
    ∃ c', (do Exec.push_Register 9; Exec.pop_Register 9 : Exec Unit).run c = .ok ((), c') ∧
      c'.regs = st1Norm c.regs ∧
      wordGet (layoutOf "st1") c'.regs = wordGet (layoutOf "st1") c.regs ∧ c'.regs.sp = c.regs.sp := by
  have h := push_pop_pseudo_register 9 "st1" rfl c conv ho
  rw [st1_set_get c.regs hf] at h
  exact ⟨_, h, rfl, st1_word_restored _, rfl⟩

end Teakra
