import Proofs.C08Stack.Pusha
/-!
# C08 — `push px ; pop px` and `push abe ; pop abe`

* `push px` pushes the low 32 bits of `ProductToBus40(px)` (so the product shifter `ps` applies);
  `pop px` assigns `p = value`, `pe = value >> 31`.
* `push abe` pushes bits 32..47 of `GetAndSatAcc`; `pop abe` replaces bits 32..63 by
  `SignExtend<8>` of the popped byte (`SetAccAndFlag`).
-/
namespace Teakra
open Teakra Exec ExecLemmas Interp Sys RegName

/-- An accumulator kept "sign-extended from bit 39 in 64 bits" (the invariant of the register
file; `Regs.SignExt40` of `TeakraModel/RegFile.lean` is the same statement). -/
def SignExt40 (acc : U64) : Prop := acc = Alu.signExtend 40 acc
instance : DecidablePred SignExt40 := fun _ => inferInstanceAs (Decidable (_ = _))

theorem signExtend_bit {k : Nat} {acc : U64} (h : acc = Alu.signExtend (k + 1) acc) {i : Nat} (h1 : k < i)
    (h2 : i < 64) : acc.getLsbD i = acc.getLsbD k := by
  have e := congrArg (fun x => x.getLsbD i) h
  simp only [Alu.signExtend, BitVec.getLsbD_signExtend, BitVec.getLsbD_setWidth, BitVec.msb_eq_getLsbD_last] at e
  rw [e]
  simp [h2, show ¬ i < k + 1 by omega]

/-- An accumulator that is its own sign extension from bit `32 + k` is put together again from its low
32 bits and the sign extension of a word whose low `k + 1` bits are its bits `32 .. 32 + k`: `pop abe`
with `k = 7`, the `a0e` / `a1e` nibble of `st0` / `st1` with `k = 3`. -/
theorem ext_rebuild {k : Nat} {acc : U64} {x : U32} (hx : ∀ j, j < k + 1 → x.getLsbD j = acc.getLsbD (32 + j))
    (h : acc = Alu.signExtend (32 + k + 1) acc) :
    (acc &&& 0xFFFFFFFF) ||| (((Alu.signExtend32 (k + 1) x).setWidth 64 : U64) <<< 32) = acc := by
  unfold Alu.signExtend32
  apply BitVec.eq_of_getLsbD_eq
  intro i hi
  simp only [BitVec.getLsbD_or, and_mask32_bit64', BitVec.getLsbD_shiftLeft, BitVec.getLsbD_setWidth,
    BitVec.getLsbD_signExtend, BitVec.msb_eq_getLsbD_last, Nat.add_sub_cancel]
  by_cases h32 : i < 32
  · simp [h32, hi]
  · by_cases hik : i - 32 < k + 1
    · rw [if_pos hik, hx _ hik, show 32 + (i - 32) = i by omega]
      simp [h32, hi, hik, show i - 32 < 32 by omega, show i - 32 < 64 by omega]
    · rw [if_neg hik, hx k (by omega), signExtend_bit h (show 32 + k < i by omega) hi]
      simp [h32, hi, show i - 32 < 32 by omega, show i - 32 < 64 by omega]

/-! ## `push px` / `pop px` -/

theorem productToBus40_noshift (p : U32) (pe : U16) : ((Alu.productToBus40 p pe 0).setWidth 32 : U32) = p := by
  unfold Alu.productToBus40 Alu.signExtend
  apply BitVec.eq_of_getLsbD_eq
  intro i hi
  simp only [beq_self_eq_true, if_true, BitVec.getLsbD_setWidth, BitVec.getLsbD_signExtend, BitVec.getLsbD_or,
    BitVec.getLsbD_shiftLeft]
  have h1 : i < 33 := by omega
  have h2 : i < 64 := by omega
  simp [hi, h1, h2]

def pxUnit (a : Nat) : Fin 2 := if a == 1 then 1 else 0

def pxBus32 (r : Regs) (u : Fin 2) : U32 := (Alu.productToBus40 r.p[u] r.pe[u] r.ps[u]).setWidth 32

/-- **`push px ; pop px`, closed form**: `p[u]` becomes the low 32 bits of `ProductToBus40` (the
product *after the shifter `ps`*), `pe[u]` becomes bit 31 of that value; `sp` and every other
register are unchanged. -/
theorem push_px_pop_px (a : Nat) (c : Core) (a1 a2 : U32)
    (h1 : OrdinaryAt c.bus (c.regs.sp - 1) a1) (h2 : OrdinaryAt c.bus (c.regs.sp - 2) a2) :
    (do Exec.push_Px a; Exec.pop_Px a : Exec Unit).run c =
      .ok ((),
        { afterPushPop2 c a1 a2 ((pxBus32 c.regs (pxUnit a) &&& 0xFFFF).setWidth 16)
            ((pxBus32 c.regs (pxUnit a) >>> 16).setWidth 16) with
          regs := { c.regs with
            p := c.regs.p.set (pxUnit a) (pxBus32 c.regs (pxUnit a))
            pe := c.regs.pe.set (pxUnit a) ((pxBus32 c.regs (pxUnit a) >>> 31).setWidth 16) } }) := by
  unfold Exec.push_Px Exec.pop_Px productToBus40
  rw [bind_assoc, bind_assoc, run_bind, run_getRegs, except_ok_bind, pure_bind, push2_pop2 c _ _ a1 a2 _ h1 h2,
    join16_32]
  rfl

/-- **The product register and its extension bit are restored** exactly under: shifter off
(`ps[u] = 0`) and `pe[u]` equal to bit 31 of `p[u]` (true after every signed×signed multiply). -/
theorem push_px_pop_px_restores (a : Nat) (c : Core) (a1 a2 : U32)
    (h1 : OrdinaryAt c.bus (c.regs.sp - 1) a1) (h2 : OrdinaryAt c.bus (c.regs.sp - 2) a2)
    (hps : c.regs.ps[pxUnit a] = 0)
    (hpe : c.regs.pe[pxUnit a] = (c.regs.p[pxUnit a] >>> 31).setWidth 16) :
    (do Exec.push_Px a; Exec.pop_Px a : Exec Unit).run c =
      .ok ((), afterPushPop2 c a1 a2 ((c.regs.p[pxUnit a] &&& 0xFFFF).setWidth 16)
                 ((c.regs.p[pxUnit a] >>> 16).setWidth 16)) := by
  rw [push_px_pop_px a c a1 a2 h1 h2, pxBus32, hps, productToBus40_noshift, ← hpe, Fin.getElem_fin, Fin.getElem_fin,
    Vector.set_getElem_self, Vector.set_getElem_self]
  rfl

/-- With `ps = 0` alone: `p` is restored, `pe` becomes bit 31 of `p`. -/
theorem push_px_pop_px_partial (a : Nat) (c : Core) (a1 a2 : U32)
    (h1 : OrdinaryAt c.bus (c.regs.sp - 1) a1) (h2 : OrdinaryAt c.bus (c.regs.sp - 2) a2)
    (hps : c.regs.ps[pxUnit a] = 0) :
    ∃ c', (do Exec.push_Px a; Exec.pop_Px a : Exec Unit).run c = .ok ((), c') ∧
      c'.regs.p = c.regs.p ∧ c'.regs.sp = c.regs.sp ∧
      c'.regs.pe = c.regs.pe.set (pxUnit a) ((c.regs.p[pxUnit a] >>> 31).setWidth 16) := by
  have key := push_px_pop_px a c a1 a2 h1 h2
  rw [pxBus32, hps, productToBus40_noshift] at key
  exact ⟨_, key, Vector.set_getElem_self _, rfl, rfl⟩

/-- Negative witnesses: (1) `pe = 1` with bit 31 of `p` clear (an unsigned product ≥ 2³²) comes
back with `pe = 0`; (2) with the shifter on (`ps = 1`, `>> 1`) `p = 2` comes back as `1`. -/
theorem push_px_pop_px_counterexample :
    (let r : Regs := { pe := #v[1, 0] }; ((pxBus32 r 0 >>> 31).setWidth 16 : U16) ≠ r.pe[0]) ∧
    (let r : Regs := { p := #v[2, 0], ps := #v[1, 0] }; pxBus32 r 0 ≠ r.p[0]) := by
  decide +kernel

/-! ## `push abe` / `pop abe` -/

/-- Bits 32..47 of a 64-bit value (what `push abe` stores). -/
def ext16 (v : U64) : U16 := ((v >>> 32) &&& 0xFFFF).setWidth 16

/-- The accumulator `pop abe` assembles from the current accumulator and the popped word. -/
def abeSet (acc : U64) (w : U16) : U64 :=
  (acc &&& 0xFFFFFFFF) ||| (((Alu.signExtend32 8 ((w &&& 0xFF).setWidth 32)).setWidth 64 : U64) <<< 32)

theorem abeSet_ext16 (acc : U64) (h : SignExt40 acc) : abeSet acc (ext16 acc) = acc :=
  ext_rebuild (k := 7) (fun j hj => by
    simp only [ext16, BitVec.getLsbD_setWidth, and_mask8_bit16, and_mask16_bit64, BitVec.getLsbD_ushiftRight]
    simp [show j < 8 from hj, show j < 16 by omega, show j < 32 by omega]) h

theorem accIndex_Abe (a : Fin 4) :
    accIndex (Abe.name a.val) = some (decide (a.val < 2), if a.val % 2 = 0 then 0 else 1) := by
  have : a = 0 ∨ a = 1 ∨ a = 2 ∨ a = 3 := by omega
  rcases this with rfl | rfl | rfl | rfl <;> rfl

theorem accOf_sp (r : Regs) (sp : U16) (isB : Bool) (i : Fin 2) :
    accOf ({ r with sp := sp } : Regs) isB i = accOf r isB i := by cases isB <;> rfl

/-- **`push abe ; pop abe`, closed form.**  Let `(v, r₁)` be the result of `GetAndSatAcc`.  The
accumulator becomes `abeSet acc (ext16 v)`: low 32 bits kept, bits 32..63 the sign extension of the
low byte of the pushed extension word; flags `fz fm fe fn` recomputed; `sp` and every other register
as in `r₁`. -/
theorem push_abe_pop_abe (a : Nat) (isB : Bool) (i : Fin 2) (hn : accIndex (Abe.name a) = some (isB, i))
    (c : Core) (conv : U32) (ho : OrdinaryAt c.bus (c.regs.sp - 1) conv) :
    (do Exec.push_Abe a; Exec.pop_Abe a : Exec Unit).run c =
      .ok ((),
        { afterPushPop { c with regs := (satRead c.regs (accOf c.regs isB i)).2 } conv
            (ext16 (satRead c.regs (accOf c.regs isB i)).1) with
          regs := setAccAndFlagPure isB i
            (abeSet (accOf c.regs isB i) (ext16 (satRead c.regs (accOf c.regs isB i)).1))
            (satRead c.regs (accOf c.regs isB i)).2 }) := by
  generalize hsr : satRead c.regs (accOf c.regs isB i) = sr
  have hsp : sr.2.sp = c.regs.sp := by rw [← hsr]; exact satRead_sp _ _
  have hacc : accOf sr.2 isB i = accOf c.regs isB i := by rw [← hsr]; exact accOf_satRead _ _ _ _
  unfold Exec.push_Abe Exec.pop_Abe
  rw [← hacc, bind_assoc, run_bind, getAndSatAcc_run _ isB i hn, hsr, except_ok_bind, ← bind_assoc, run_bind,
    push_pop_word _ _ conv (ho.setRegs hsp), except_ok_bind, run_bind, getAcc_run' _ isB i hn, except_ok_bind,
    setAccAndFlag_run _ isB i hn]
  rfl

/-- **With saturation disabled (`sat ≠ 0`) and the accumulator sign-extended from bit 39** the
extension — hence the whole accumulator — and `sp` are restored; the only registers that change are
the flags `fz fm fe fn` (recomputed from the accumulator by `SetAccAndFlag`). -/
theorem push_abe_pop_abe_restores (a : Nat) (isB : Bool) (i : Fin 2)
    (hn : accIndex (Abe.name a) = some (isB, i))
    (c : Core) (conv : U32) (ho : OrdinaryAt c.bus (c.regs.sp - 1) conv)
    (hsat : c.regs.sat ≠ 0) (hext : SignExt40 (accOf c.regs isB i)) :
    (do Exec.push_Abe a; Exec.pop_Abe a : Exec Unit).run c =
      .ok ((), { afterPushPop c conv (ext16 (accOf c.regs isB i)) with
                 regs := withAccFlags c.regs (accOf c.regs isB i) }) := by
  rw [push_abe_pop_abe a isB i hn c conv ho, satRead_off _ _ hsat, abeSet_ext16 _ hext, setAccAndFlagPure_self]

/-- Negative witness (saturation *enabled*, `sat = 0`): the accumulator `0x01_0000_0001` is pushed
as the extension of its saturated value (`0`), and popping that over the *unsaturated* low word
gives `0x0000_0001`: the accumulator value changes. -/
theorem push_abe_pop_abe_sat_counterexample :
    let r : Regs := { a := #v[0x100000001, 0], sat := 0 }
    SignExt40 (accOf r false 0) ∧
    abeSet (accOf r false 0) (ext16 (satRead r (accOf r false 0)).1) = 1 := by
  decide +kernel

end Teakra
