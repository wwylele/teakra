import Proofs.C08Stack.Word
/-!
# C08 — `PushPC` / `PopPC` and return frames

* `ReturnFrame c sp pc a1 a2`: the two words on top of the stack of `c` are the return address `pc`
  pushed from stack pointer `sp` in the word order selected by `cpc`.  `pushPC` establishes it
  (`pushPC_frame`; `pushPC_ordinary` is in `Proofs/Lemmas/CoreBus.lean`), `PopPC` consumes it
  (`popPC_frame_run`), and so does every return form (`Proofs/C08Stack/CallRet.lean`).
* `pushPC_popPC`, `pushPC_popPC_both_orders`: the pair restores the register file.
-/
namespace Teakra
open Teakra Exec ExecLemmas Interp Sys

/-! ## the two words of a return address -/

def pcWordsOf (cpc : U16) (pc : U32) : U16 × U16 :=
  if cpc == 1 then ((pc >>> 16).setWidth 16, (pc &&& 0xFFFF).setWidth 16)
  else ((pc &&& 0xFFFF).setWidth 16, (pc >>> 16).setWidth 16)

theorem pcWords_eq (r : Regs) : pcWords r = pcWordsOf r.cpc r.pc := rfl

/-- **Both word orders.**  What `PopPC` assembles from the words `PushPC` pushed (second pushed =
first popped) is the `pc` that was pushed, for `cpc = 1` and for `cpc ≠ 1`. -/
theorem popPcValue_pcWordsOf (cpc : U16) (pc : U32) :
    popPcValue cpc (pcWordsOf cpc pc).2 (pcWordsOf cpc pc).1 = pc := by
  unfold popPcValue pcWordsOf
  cases cpc == 1 <;> exact pc_of_halves pc

/-! ## return frames -/

/-- The top of the stack of `c` holds the return address `pc`, pushed from stack pointer `sp`:
`c.sp = sp - 2`, both slots are ordinary memory, slot `sp - 1` holds the first pushed word and slot
`sp - 2` the second, in the order of the *current* `cpc`. -/
structure ReturnFrame (c : Core) (sp : U16) (pc : U32) (a1 a2 : U32) : Prop where
  sp_eq : c.regs.sp = sp - 2
  ord1 : OrdinaryAt c.bus (sp - 1) a1
  ord2 : OrdinaryAt c.bus (sp - 2) a2
  word1 : c.bus.mem.read (stackCell a1) = (pcWordsOf c.regs.cpc pc).1
  word2 : c.bus.mem.read (stackCell a2) = (pcWordsOf c.regs.cpc pc).2

theorem pushPC_frame (c : Core) (a1 a2 : U32)
    (h1 : OrdinaryAt c.bus (c.regs.sp - 1) a1) (h2 : OrdinaryAt c.bus (c.regs.sp - 2) a2) :
    ReturnFrame (pushedPC c a1 a2) c.regs.sp c.regs.pc a1 a2 :=
  ⟨rfl, h1.after_write _, h2.after_write _, (pushed2_words c _ _ a1 a2 h1 h2).1, (pushed2_words c _ _ a1 a2 h1 h2).2⟩

theorem ReturnFrame.of_eq {c c' : Core} {sp : U16} {pc a1 a2 : U32} (h : ReturnFrame c sp pc a1 a2)
    (hsp : c'.regs.sp = c.regs.sp) (hcpc : c'.regs.cpc = c.regs.cpc) (hmiu : c'.bus.miu = c.bus.miu)
    (hw1 : c'.bus.mem.read (stackCell a1) = c.bus.mem.read (stackCell a1))
    (hw2 : c'.bus.mem.read (stackCell a2) = c.bus.mem.read (stackCell a2)) :
    ReturnFrame c' sp pc a1 a2 :=
  ⟨hsp.trans h.sp_eq,
   ⟨by rw [hmiu]; exact h.ord1.notMmio, by rw [hmiu]; exact h.ord1.convert, h.ord1.inRange⟩,
   ⟨by rw [hmiu]; exact h.ord2.notMmio, by rw [hmiu]; exact h.ord2.convert, h.ord2.inRange⟩,
   by rw [hw1, hcpc]; exact h.word1, by rw [hw2, hcpc]; exact h.word2⟩

theorem ReturnFrame.setRegs {c : Core} {sp : U16} {pc a1 a2 : U32} (h : ReturnFrame c sp pc a1 a2)
    (r : Regs) (hsp : r.sp = c.regs.sp) (hcpc : r.cpc = c.regs.cpc) :
    ReturnFrame { c with regs := r } sp pc a1 a2 :=
  h.of_eq hsp hcpc rfl rfl rfl

def poppedPC (c : Core) (sp : U16) (pc : U32) (a1 a2 : U32) : Core :=
  { c with regs := { c.regs with sp := sp, pc := pc }
           log := ⟨Mem.byteAddr a1, false, 0⟩ :: ⟨Mem.byteAddr a2, false, 0⟩ :: c.log }

/-- **`PopPC` on a frame**: `pc` is the address that was pushed and `sp` the stack pointer it was
pushed from; two reads are logged; nothing else changes.  `SetPC` does not mask: with a return
address outside the 18-bit program space it stops at its `ASSERT(new_pc < 0x40000)`. -/
theorem popPC_frame_run (c : Core) (sp : U16) (pc a1 a2 : U32) (h : ReturnFrame c sp pc a1 a2) :
    popPC.run c =
      if pc.toNat < 0x40000 then .ok ((), poppedPC c sp pc a1 a2) else .error (.abort .assert) := by
  have o2 : OrdinaryAt c.bus c.regs.sp a2 := by rw [h.sp_eq]; exact h.ord2
  have o1 : OrdinaryAt c.bus (c.regs.sp + 1) a1 := by rw [h.sp_eq, sub_two_add_one]; exact h.ord1
  rw [popPC_run, busRead_ordinary c _ a2 o2]
  simp only [except_ok_bind]
  have e := busRead_ordinary ({ c with log := ⟨Mem.byteAddr a2, false, 0⟩ :: c.log } : Core)
    (c.regs.sp + 1) a1 o1
  rw [e]
  simp only [except_ok_bind]
  have hv : popPcValue c.regs.cpc (c.bus.mem.read (stackCell a2)) (c.bus.mem.read (stackCell a1)) = pc := by
    rw [h.word1, h.word2]; exact popPcValue_pcWordsOf _ _
  show (if (popPcValue c.regs.cpc (c.bus.mem.read (stackCell a2)) (c.bus.mem.read (stackCell a1))).toNat < 0x40000
    then _ else _) = _
  rw [hv, h.sp_eq, BitVec.sub_add_cancel]
  rfl

theorem popPC_frame (c : Core) (sp : U16) (pc a1 a2 : U32) (h : ReturnFrame c sp pc a1 a2)
    (hpc : pc.toNat < 0x40000) :
    popPC.run c = .ok ((), poppedPC c sp pc a1 a2) := by
  rw [popPC_frame_run c sp pc a1 a2 h, if_pos hpc]

/-! ## `PushPC ; PopPC` -/

/-- `afterPushPop2` with the two words of `pc`. -/
def afterPushPopPC (c : Core) (a1 a2 : U32) : Core :=
  { c with
    bus := { c.bus with mem := (c.bus.mem.write (stackCell a1) (pcWords c.regs).1).write
                                  (stackCell a2) (pcWords c.regs).2 }
    log := ⟨Mem.byteAddr a1, false, 0⟩ :: ⟨Mem.byteAddr a2, false, 0⟩ ::
           ⟨Mem.byteAddr a2, true, (pcWords c.regs).2⟩ ::
           ⟨Mem.byteAddr a1, true, (pcWords c.regs).1⟩ :: c.log }

theorem regs_eta_sp_pc (r : Regs) : ({ r with sp := r.sp, pc := r.pc } : Regs) = r := rfl

theorem pushPC_popPC_run (c : Core) (a1 a2 : U32)
    (h1 : OrdinaryAt c.bus (c.regs.sp - 1) a1) (h2 : OrdinaryAt c.bus (c.regs.sp - 2) a2) :
    (do pushPC; popPC : Exec Unit).run c =
      if c.regs.pc.toNat < 0x40000 then .ok ((), afterPushPopPC c a1 a2) else .error (.abort .assert) := by
  rw [run_bind, pushPC_ordinary c a1 a2 h1 h2, except_ok_bind, popPC_frame_run _ _ _ _ _ (pushPC_frame c a1 a2 h1 h2)]
  rfl

/-- **`PushPC` then `PopPC`** restores `pc` and `sp` — the whole register file — for both values
of `cpc` (no case distinction is needed in the statement: `pcWords`/`popPcValue` follow `cpc`).
`SetPC` does not mask: it `ASSERT`s `pc < 0x40000`, hence the hypothesis on `pc`
(`pushPC_popPC_assert` is the other case). -/
theorem pushPC_popPC (c : Core) (a1 a2 : U32)
    (h1 : OrdinaryAt c.bus (c.regs.sp - 1) a1) (h2 : OrdinaryAt c.bus (c.regs.sp - 2) a2)
    (hpc : c.regs.pc.toNat < 0x40000) :
    (do pushPC; popPC : Exec Unit).run c = .ok ((), afterPushPopPC c a1 a2) := by
  rw [pushPC_popPC_run c a1 a2 h1 h2, if_pos hpc]

theorem pushPC_popPC_assert (c : Core) (a1 a2 : U32)
    (h1 : OrdinaryAt c.bus (c.regs.sp - 1) a1) (h2 : OrdinaryAt c.bus (c.regs.sp - 2) a2)
    (hpc : ¬ c.regs.pc.toNat < 0x40000) :
    (do pushPC; popPC : Exec Unit).run c = .error (.abort .assert) := by
  rw [pushPC_popPC_run c a1 a2 h1 h2, if_neg hpc]

/-- The two instances the property names. -/
theorem pushPC_popPC_both_orders (c : Core) (a1 a2 : U32)
    (h1 : OrdinaryAt c.bus (c.regs.sp - 1) a1) (h2 : OrdinaryAt c.bus (c.regs.sp - 2) a2)
    (hpc : c.regs.pc.toNat < 0x40000) :
    (c.regs.cpc = 1 →
      (do pushPC; popPC : Exec Unit).run c = .ok ((), afterPushPopPC c a1 a2) ∧
      (afterPushPopPC c a1 a2).bus.mem.read (stackCell a2) = (c.regs.pc &&& 0xFFFF).setWidth 16 ∧
      (afterPushPopPC c a1 a2).bus.mem.read (stackCell a1) = (c.regs.pc >>> 16).setWidth 16) ∧
    (c.regs.cpc ≠ 1 →
      (do pushPC; popPC : Exec Unit).run c = .ok ((), afterPushPopPC c a1 a2) ∧
      (afterPushPopPC c a1 a2).bus.mem.read (stackCell a2) = (c.regs.pc >>> 16).setWidth 16 ∧
      (afterPushPopPC c a1 a2).bus.mem.read (stackCell a1) = (c.regs.pc &&& 0xFFFF).setWidth 16) := by
  have r2 : (afterPushPopPC c a1 a2).bus.mem.read (stackCell a2) = (pcWords c.regs).2 :=
    (pushPC_frame c a1 a2 h1 h2).word2
  have r1 : (afterPushPopPC c a1 a2).bus.mem.read (stackCell a1) = (pcWords c.regs).1 :=
    (pushPC_frame c a1 a2 h1 h2).word1
  constructor
  · intro h
    rw [r1, r2, (pcWords_cpc c.regs).1 h]
    exact ⟨pushPC_popPC c a1 a2 h1 h2 hpc, rfl, rfl⟩
  · intro h
    rw [r1, r2, (pcWords_cpc c.regs).2 h]
    exact ⟨pushPC_popPC c a1 a2 h1 h2 hpc, rfl, rfl⟩

end Teakra
