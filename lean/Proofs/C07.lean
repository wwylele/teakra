import Proofs.C07.Entry
import Proofs.C07.Raise
import Proofs.C07.Reti
/-!
# C07 — interrupts are delivered exactly once, in priority order, never spuriously

The controller half is `Proofs/C07Icu.lean`.  This file and `Proofs/C07/*` are the core half and
the composition:

* `Proofs/Cycle.lean` — `latched_spec`, `latch_once`: the latch phase of the loop body;
  `cycle_entry_after_exec`: latch, instruction, then the interrupt block.
* `Proofs/Cycle/Poll.lean` — `interruptCheck_spec`, `interruptCheck_eq_decision`: the interrupt block as a
  decision on the register file followed by its entry sequence.
* `Proofs/Lemmas/CoreBus.lean` — `pushPC_spec`, `pushPC_run`, `popPC_run`: `PushPC` / `PopPC` at bus level.
* `Proofs/C07/Entry.lean` — the entry sequences in closed form and the consequences `priority`,
  `masked_never_enters`, `disabled_never_enters`, `rep_holds_off`, `entry_clears_enable`,
  `entry_consumes_request`, `no_spurious`, `enabled_enters`, `entry_pushes_next_pc`.
* `Proofs/C07/Raise.lean` — `raise_reaches_core`, `unrouted_never_latches`, `raised_stays_pending`.
* `Proofs/C07/Reti.lean`  — `reti_run`, `retic_run`, `reti_effect`.
-/
namespace Teakra
open Teakra Exec ExecLemmas Interp Sys Icu

/-! ## end to end: raise → latch → `ip` → entry -/

/-- **A routed request becomes an `ip` bit at the next loop iteration.**  After
`icu.TriggerSingle(irq)` with `irq` enabled on line `l`, the latch phase of the next loop
iteration sets `ip[l] = 1`; the `ip`/`ipv` bits of lines that are neither routed nor already
latched keep their value. -/
theorem raise_then_latch (p : Periph) (irq : Nat) (hirq : irq < 16) (c : Core) (l : Fin 3) :
    (p.icu.enabled[l].getLsbD irq = true →
      (latched (c.emit (p.raise irq).2)).regs.ip[l] = 1) ∧
    (p.icu.enabled[l].getLsbD irq = false → c.ipend[l] = false →
      (latched (c.emit (p.raise irq).2)).regs.ip[l] = c.regs.ip[l]) ∧
    (p.icu.vectoredEnabled.getLsbD irq = true → (latched (c.emit (p.raise irq).2)).regs.ipv = 1) ∧
    (p.icu.vectoredEnabled.getLsbD irq = false → c.vpend = false →
      (latched (c.emit (p.raise irq).2)).regs.ipv = c.regs.ipv) := by
  obtain ⟨_, _, hip, hvp, _, _, hregs, _⟩ := raise_reaches_core p irq hirq c
  refine ⟨fun h => ?_, fun h h' => ?_, fun h => ?_, fun h h' => ?_⟩
  -- `hip l` is passed on as a term: restating `….ipend[l]` would run the index-bound tactic again
  · exact (latched_ip _ l.val l.isLt).trans (if_pos ((hip l).trans (by rw [h, Bool.or_true])))
  · have e : _ = false := (hip l).trans (by rw [h, Bool.or_false]; exact h')
    refine (latched_ip _ l.val l.isLt).trans ((if_neg (ne_true_of_eq_false e)).trans ?_)
    rw [hregs]; rfl
  · rw [latched_ipv, hvp, h, Bool.or_true]; rfl
  · rw [latched_ipv, hvp, h, h', hregs]; rfl

/-- **Delivery.**  A request routed to line `l`, raised while the core has interrupts enabled,
line `l` unmasked and no `rep` running, leads to an entry at the first instruction boundary
after the latch phase, provided the instruction executed in between (`execPhase`) leaves `ie`,
`rep`, `im[l]` and `ip[l]` as they are: line `l` itself, or a lower-numbered line that is also
ready (`priority`). -/
theorem routed_request_enters (p : Periph) (irq : Nat) (hirq : irq < 16) (c : Core) (l : Fin 3)
    (hroute : p.icu.enabled[l].getLsbD irq = true) (c2 : Core)
    (hexec : execPhase.run (latched (c.emit (p.raise irq).2)) = .ok ((), c2))
    (hie : c2.regs.ie ≠ 0) (hrep : c2.regs.rep = false) (him : c2.regs.im[l] ≠ 0)
    (hip : c2.regs.ip[l] = (latched (c.emit (p.raise irq).2)).regs.ip[l]) :
    ∃ j : Fin 3, j ≤ l ∧
      cycle.run (c.emit (p.raise irq).2) = (enterLine j).run c2 := by
  have h1 := hip.trans ((raise_then_latch p irq hirq c l).1 hroute)
  obtain ⟨j, hj, hd⟩ := enabled_enters c2 l hie hrep ⟨him, by rw [h1]; decide⟩
  refine ⟨j, hj, ?_⟩
  rw [cycle_spec, hexec]
  show (entryDecision c2.regs).exec.run c2 = _
  rw [hd]; rfl

/-! ## a remark on the vectored interrupt -/

/-- **The vectored handler address is not latched with the request.**
`SignalVectoredInterrupt` overwrites `vinterrupt_address` / `vinterrupt_context_switch` even when
an earlier vectored request is still pending in `ipv` (or in `vinterrupt_pending`), and the entry
reads them only at entry time: a pending vectored request for vector `A` followed by a request
for vector `B` before the entry results in an entry at `B` (and, the second request having set
the latch again, a second entry at `B` later) — the handler at `A` is never entered.  This is
the behaviour of src/interpreter.h (`vinterrupt_address` is a single `std::atomic<u32>`), not an
artefact of the model. -/
theorem vectored_address_is_latest (c : Core) (a b : U32) (ca cb : Bool) :
    ((c.signal (.virq a ca)).signal (.virq b cb)).vaddr = b ∧
    ((c.signal (.virq a ca)).signal (.virq b cb)).vctx = cb ∧
    ((c.signal (.virq a ca)).signal (.virq b cb)).vpend = true ∧
    (∀ c1 a1 a2, c1.vaddr = b →
      OrdinaryAt c1.bus (c1.regs.sp - 1) a1 → OrdinaryAt c1.bus (c1.regs.sp - 2) a2 →
      ∃ c', enterVectored.run c1 = .ok ((), c') ∧ c'.regs.pc = b) := by
  refine ⟨rfl, rfl, rfl, fun c1 a1 a2 hb h1 h2 => ⟨_, vectored_entry_pushes_next_pc_ordinary c1 a1 a2 h1 h2, ?_⟩⟩
  show (vecEntryRegs c1.vaddr c1.vctx c1.regs).pc = b
  rw [← hb]
  exact congrArg IntPart.pc (intPart_vecEntryRegs c1.vaddr c1.vctx c1.regs)

/-! ## non-vacuity -/

/-- A state with interrupts enabled, all lines unmasked, lines 1 and 2 and the vectored
interrupt requested, stack at `0x1000` (ordinary memory with the reset MIU), `pc = 0x1234`. -/
def exTwo : Core :=
  { regs := { ie := 1, im := #v[1, 1, 1], ip := #v[0, 1, 1], imv := 1, ipv := 1,
              sp := 0x1000, pc := 0x1234 } }

private theorem exTwo_stack :
    OrdinaryAt exTwo.bus (exTwo.regs.sp - 1) 0x20FFF ∧ OrdinaryAt exTwo.bus (exTwo.regs.sp - 2) 0x20FFE :=
  ⟨⟨by decide, by decide, by decide⟩, ⟨by decide, by decide, by decide⟩⟩

/-- Two lines and the vectored interrupt deliverable: line 1 (the lowest) is entered, `ip[2]` and `ipv` stay
pending, the return address goes to the stack high word first (`cpc = 1`). -/
example :
    entryDecision exTwo.regs = .line 1 ∧
    ∃ c', interruptCheck.run exTwo = .ok ((), c') ∧
      c'.regs.pc = 0x000E ∧ c'.regs.ie = 0 ∧ c'.regs.sp = 0x0FFE ∧
      c'.regs.ip = #v[0, 0, 1] ∧ c'.regs.ipv = 1 ∧ c'.idle = false ∧
      c'.log = [⟨0x41FFC, true, 0x1234⟩, ⟨0x41FFE, true, 0x0000⟩] := by
  have hp := priority exTwo 1 (by decide) rfl ⟨by decide, by decide⟩ (by decide)
  refine ⟨hp.1, _, hp.2.1.trans (entry_pushes_next_pc_ordinary 1 exTwo _ _ exTwo_stack.1 exTwo_stack.2),
    ?_, ?_, ?_, ?_, ?_, rfl, ?_⟩
  all_goals first | rfl | decide

/-- Line 0 requested but masked, line 2 requested and unmasked. -/
def exMasked : Core :=
  { regs := { ie := 1, im := #v[0, 1, 1], ip := #v[1, 0, 1], sp := 0x1000, pc := 0x0100 } }

/-- The masked request is not entered (line 2 is, although it has lower priority) and stays
pending: `ip[0] = 1` afterwards. -/
example :
    entryDecision exMasked.regs = .line 2 ∧
    ∀ c', interruptCheck.run exMasked = .ok ((), c') →
      c'.regs.ip[(0 : Fin 3)] = 1 ∧ c'.regs.ip[(2 : Fin 3)] = 0 ∧ c'.regs.pc = 0x0016 := by
  have hp := priority exMasked 2 (by decide) rfl ⟨by decide, by decide⟩ (by decide)
  refine ⟨hp.1, fun c' h => ?_⟩
  have hm := (masked_never_enters exMasked 0 (by decide)).2 c' h
  obtain ⟨hpc, h2, _, _⟩ := hp.2.2 c' h
  exact ⟨hm, h2, hpc⟩

/-- With everything masked a pending request is inert: the interrupt block does nothing. -/
example :
    interruptCheck.run ({ regs := { ie := 1, ip := #v[1, 1, 1], ipv := 1 } } : Core) =
      .ok ((), { regs := { ie := 1, ip := #v[1, 1, 1], ipv := 1 } }) := by
  rw [interruptCheck_eq_decision]
  rfl

/-- Routing example: request 0xA (timer 0) enabled on line 1 and vectored with vector
`0x0003:0x0010` and context switch. -/
example :
    let p : Periph := { icu := { enabled := #v[0, 0x0400, 0], vectoredEnabled := 0x0400,
                                  vectorLow := Vector.replicate 16 0x10,
                                  vectorHigh := Vector.replicate 16 3,
                                  vectorContextSwitch := Vector.replicate 16 1 } }
    (p.raise 0xA).2 = [.irq 1, .virq 0x30010 true] ∧ (p.raise 0xA).1.icu.request = 0x0400 := by
  decide

end Teakra
