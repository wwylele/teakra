import Proofs.C15
import Proofs.C16
import Proofs.C06
import TeakraModel.Sys
import Proofs.Lemmas.Exec
import Proofs.Lemmas.Emit
import Proofs.Mmio.Write
/-!
# C06 (system part) — `k` bus ticks inside the horizon, componentwise

One bus tick advances the two timers and the two audio ports and hands the interrupts they raise to the ICU
(`Bus.tick_spec`); when none raises, nothing else changes and the only events are audio frames (`Bus.tick_quiet`).
`liftBus` carries a bus-level call to the machine: the tick here, the host calls in `C06Host`.  `tickedBus k` /
`ticked k` are the closed forms of bus and machine after `k` such ticks and `BusOk` is the part of the invariant they need:
`k ≤ maxSkip` ticks end in `ticked k` (`ticksN_quiet`) and so does `CoreTiming::Skip` (`skip_eq_ticked`), by the
per-component statements of C15 (timer) and C16 (audio port).
-/
namespace Teakra

theorem vec2_eta {α : Type} (v : Vector α 2) : #v[v[0], v[1]] = v := by
  apply Vector.ext
  intro i hi
  match i, hi with
  | 0, _ => rfl
  | 1, _ => rfl

theorem vec2_set {α : Type} (v : Vector α 2) (a b : α) : (v.set 0 a).set 1 b = #v[a, b] := by
  rw [← vec2_eta v]
  rfl

theorem vec2_set0_get1 {α : Type} (v : Vector α 2) (a : α) : (v.set 0 a)[1] = v[1] := by simp

namespace Sys

theorem vec2_get0 {α : Type} (a b : α) : (#v[a, b] : Vector α 2)[0] = a := rfl
theorem vec2_get1 {α : Type} (a b : α) : (#v[a, b] : Vector α 2)[1] = b := rfl

end Sys

namespace Periph

theorem raise_frame (p : Periph) (irq : Nat) : (p.raise irq).1 = { p with icu := (p.raise irq).1.icu } := rfl

/-- `raiseIf_fst` for a raise that `generalize` has given a name. -/
theorem raiseIf_cases {p : Periph} {f : Bool} {irq : Nat} {r : Periph × List PEvent} (h : p.raiseIf f irq = r) :
    ∃ i evs, r = ({ p with icu := i }, evs) :=
  h ▸ ⟨_, _, Prod.ext (raiseIf_fst p f irq) rfl⟩

theorem raiseN_cases {p : Periph} {irq n : Nat} {r : Periph × List PEvent} (h : p.raiseN irq n = r) :
    ∃ i evs, r = ({ p with icu := i }, evs) :=
  h ▸ ⟨_, _, Prod.ext (raiseN_fst irq n p) rfl⟩

end Periph

theorem Bus.tick_spec (b : Bus) (hw0 : Timer.WF (b.per.timer[0])) (hw1 : Timer.WF (b.per.timer[1])) :
    ∃ icu evs, b.tick = .ok ({ b with per := { b.per with
        timer := #v[(Timer.tickCore (b.per.timer[0])).1, (Timer.tickCore (b.per.timer[1])).1],
        btdmp := #v[(Btdmp.tick (b.per.btdmp[0])).1, (Btdmp.tick (b.per.btdmp[1])).1],
        icu := icu } }, evs) := by
  unfold Bus.tick
  rw [Timer.tick_of_WF hw0]
  -- the `let`s stay until the first raise has a name: unfolded, each raise is copied into all later ones
  simp -zeta only []
  generalize hr0 : Periph.raiseIf _ _ _ = r0
  obtain ⟨i0, ev0, rfl⟩ := Periph.raiseIf_cases hr0
  simp only [vec2_set0_get1, Timer.tick_of_WF hw1]
  generalize hr1 : Periph.raiseIf _ _ _ = r1
  obtain ⟨i1, ev1, rfl⟩ := Periph.raiseIf_cases hr1
  simp only []
  generalize hr2 : Periph.raiseN _ _ _ = r2
  obtain ⟨i2, ev2, rfl⟩ := Periph.raiseN_cases hr2
  simp only []
  generalize hr3 : Periph.raiseN _ _ _ = r3
  obtain ⟨i3, ev3, rfl⟩ := Periph.raiseN_cases hr3
  simp only [vec2_set0_get1, vec2_set]
  exact ⟨_, _, rfl⟩

theorem Bus.tick_quiet (b : Bus) {t0 t1 : Timer} {a0 a1 : Btdmp}
    (ht : b.per.timer = #v[t0, t1]) (ha : b.per.btdmp = #v[a0, a1])
    (hw0 : Timer.WF t0) (hw1 : Timer.WF t1)
    (hf0 : (Timer.tickCore t0).2 = false) (hf1 : (Timer.tickCore t1).2 = false)
    (hi0 : (Btdmp.tick a0).2.2 = 0) (hi1 : (Btdmp.tick a1).2.2 = 0) :
    b.tick = .ok ({ b with per := { b.per with
        timer := #v[(Timer.tickCore t0).1, (Timer.tickCore t1).1],
        btdmp := #v[(Btdmp.tick a0).1, (Btdmp.tick a1).1] } },
      Bus.audioEvents (Btdmp.tick a0).2.1) := by
  unfold Bus.tick
  rw [ht, Sys.vec2_get0, Timer.tick_of_WF hw0]
  simp only [ha, hf0, Periph.raiseIf, Bool.false_eq_true, if_false, vec2_set0_get1, Sys.vec2_get0, Sys.vec2_get1,
    Timer.tick_of_WF hw1, hf1, hi0, hi1, Periph.raiseN, vec2_set, List.nil_append, List.append_nil]

/-- Audio frames are host callbacks: they are logged and change nothing else. -/
theorem Core.emit_audio (c : Core) (fs : List Frame) :
    c.emit (Bus.audioEvents fs) = { c with events := (Bus.audioEvents fs).reverse ++ c.events } := by
  have h : ∀ c : Core, (Bus.audioEvents fs).foldl Core.signal c = c := by
    induction fs with
    | nil => exact fun _ => rfl
    | cons f fs ih => exact fun c => ih c
  unfold Core.emit
  rw [h]

namespace Sys

theorem tickAll_run (c : Core) : tickAll.run c =
    match c.bus.tick with
    | .ok (bus, evs) => .ok ((), ({ c with bus := bus } : Core).emit evs)
    | .error e => .error (.abort e) := by
  unfold tickAll
  rw [ExecLemmas.run_bind, ExecLemmas.run_get, ExecLemmas.except_ok_bind]
  show StateT.run (match c.bus.tick with
    | .ok (bus, evs) => set (({ c with bus := bus } : Core).emit evs)
    | .error e => Exec.abort e) c = _
  cases c.bus.tick with
  | error e => rfl
  | ok r => rfl

/-- Lift a bus-level call (a host call, the tick) to the machine. -/
def liftBus (f : Bus → R (Bus × List PEvent)) (c : Core) : Except Stop Core :=
  match f c.bus with
  | .ok (b, evs) => .ok (({ c with bus := b } : Core).emit evs)
  | .error e => .error (.abort e)

theorem liftBus_spec (f : Bus → R (Bus × List PEvent)) (c c' : Core) (h : liftBus f c = .ok c') :
    ∃ b evs, f c.bus = .ok (b, evs) ∧ c' = ({ c with bus := b } : Core).emit evs := by
  unfold liftBus at h
  split at h
  · rename_i b evs hf
    cases h
    exact ⟨b, evs, hf, rfl⟩
  · cases h

theorem liftBus_frame (f : Bus → R (Bus × List PEvent)) (c c' : Core) (h : liftBus f c = .ok c') :
    c'.regs = c.regs ∧ c'.log = c.log ∧ c'.idle = c.idle ∧
      ∃ evs, f c.bus = .ok (c'.bus, evs) ∧ c'.events = evs.reverse ++ c.events := by
  obtain ⟨b, evs, hf, hc'⟩ := liftBus_spec f c c' h
  rw [Core.emit_eq] at hc'
  subst hc'
  exact ⟨rfl, rfl, rfl, evs, hf, rfl⟩

theorem tick_of_periphOk {c : Core} (hp : periphOk c.bus = true) : tick c = liftBus Bus.tick c := by
  unfold tick liftBus
  rw [tickAll_run, if_pos hp]
  cases c.bus.tick <;> rfl

theorem tick_spec (c c' : Core) (h : tick c = .ok c') :
    periphOk c.bus = true ∧ ∃ b' evs, c.bus.tick = .ok (b', evs) ∧ c' = ({ c with bus := b' } : Core).emit evs := by
  by_cases hp : periphOk c.bus = true
  · exact ⟨hp, liftBus_spec _ c c' (tick_of_periphOk hp ▸ h)⟩
  · unfold tick at h
    rw [if_neg hp] at h
    cases h

theorem tick_of_bus (c : Core) (b' : Bus) (evs : List PEvent) (hp : periphOk c.bus = true)
    (hb : c.bus.tick = .ok (b', evs)) : tick c = .ok (({ c with bus := b' } : Core).emit evs) := by
  rw [tick_of_periphOk hp, liftBus, hb]

/-- The bus after `k` quiet ticks: each clocked component advanced `k` times, nothing else. -/
def tickedBus (k : Nat) (b : Bus) : Bus :=
  { b with per := { b.per with
      timer := #v[(Timer.ticksCore k (b.per.timer[0])).1, (Timer.ticksCore k (b.per.timer[1])).1],
      btdmp := #v[(Btdmp.ticksCore k (b.per.btdmp[0])).1, (Btdmp.ticksCore k (b.per.btdmp[1])).1] } }

/-- The machine after `k` quiet ticks: the bus advanced, the audio frames of `btdmp[0]` logged (in
order; `events` is most recent first), registers, memory, latches and `idle` untouched. -/
def ticked (k : Nat) (c : Core) : Core :=
  { c with bus := tickedBus k c.bus,
           events := (Bus.audioEvents (Btdmp.ticksCore k (c.bus.per.btdmp[0])).2.1).reverse ++ c.events }

theorem ticked_zero (c : Core) : ticked 0 c = c := by
  unfold ticked tickedBus
  simp only [Timer.ticksCore, Btdmp.ticksCore, vec2_eta, Bus.audioEvents, List.map_nil, List.reverse_nil,
    List.nil_append]

/-- The part of the invariant the ticks need. -/
def BusOk (b : Bus) : Prop :=
  periphOk b = true ∧ Timer.WF (b.per.timer[0]) ∧ Timer.WF (b.per.timer[1])

theorem btdmpOk_iff (b : Btdmp) : btdmpOk b = true ↔ Btdmp.Inv b ∧ Btdmp.Clk b := by
  unfold btdmpOk; simp

theorem periphOk_iff (b : Bus) : periphOk b = true ↔
    (Btdmp.Inv (b.per.btdmp[0]) ∧ Btdmp.Clk (b.per.btdmp[0])) ∧
    (Btdmp.Inv (b.per.btdmp[1]) ∧ Btdmp.Clk (b.per.btdmp[1])) := by
  unfold periphOk; rw [Bool.and_eq_true, btdmpOk_iff, btdmpOk_iff]

theorem BusOk_tickedBus (k : Nat) (b : Bus) (h : BusOk b) : BusOk (tickedBus k b) := by
  obtain ⟨hp, hw0, hw1⟩ := h
  rw [periphOk_iff] at hp
  refine ⟨?_, Timer.WF_ticksCore k _ hw0, Timer.WF_ticksCore k _ hw1⟩
  rw [periphOk_iff]
  exact ⟨Btdmp.ticksCore_inv_clk k _ hp.1.1 hp.1.2, Btdmp.ticksCore_inv_clk k _ hp.2.1 hp.2.2⟩

/-- **`k` ticks inside the horizon, componentwise.**  No component raises an interrupt, so the
latches, the registers, the memory and the `idle` flag are untouched. -/
theorem ticksN_quiet (fixed : Bool) (k : Nat) (c : Core) (hq : BusOk c.bus) (hk : k ≤ c.bus.maxSkip) :
    (ops fixed).ticksN k c = .ok (ticked k c) := by
  induction k with
  | zero => simp only [LoopOps.ticksN, ticked_zero]
  | succ k ih =>
    rw [LoopOps.ticksN_add k 1, ih (by omega)]
    show tick (ticked k c) >>= Except.ok = _
    have hq' := BusOk_tickedBus k c.bus hq
    obtain ⟨hp, hw0, hw1⟩ := hq
    rw [periphOk_iff] at hp
    simp only [Bus.maxSkip, Nat.le_min] at hk
    have hb := Bus.tick_quiet (tickedBus k c.bus) rfl rfl hq'.2.1 hq'.2.2
      (Timer.last_tick_quiet _ k hk.1.1.1) (Timer.last_tick_quiet _ k hk.1.1.2)
      (Btdmp.last_tick_quiet _ hp.1.1 hp.1.2 k hk.1.2) (Btdmp.last_tick_quiet _ hp.2.1 hp.2.2 k hk.2)
    rw [tick_of_bus (ticked k c) _ _ hq'.1 hb, Core.emit_audio]
    unfold ticked tickedBus
    simp only [ExecLemmas.except_ok_bind, Timer.ticksCore_succ_last, Btdmp.ticksCore_succ_last, Bus.audioEvents,
      List.map_append, List.reverse_append, List.append_assoc]

theorem bus_skip_eq (b : Bus) (hq : BusOk b) (k : Nat) (hk : k ≤ b.maxSkip) (hk63 : k < 2 ^ 63) :
    b.skip k = .ok (tickedBus k b, Bus.audioEvents (Btdmp.ticksCore k (b.per.btdmp[0])).2.1) := by
  obtain ⟨hp, hw0, hw1⟩ := hq
  rw [periphOk_iff] at hp
  simp only [Bus.maxSkip, Nat.le_min] at hk
  have ht0 := (Timer.skip_eq_ticks _ hw0 k hk.1.1.1).1
  have ht1 := (Timer.skip_eq_ticks _ hw1 k hk.1.1.2).1
  have hov : ∀ x : Btdmp, x.timer.toNat + k < 2 ^ 64 := fun x => by have := x.timer.isLt; omega
  have hb0 := (Btdmp.skip_eq_ticks _ hp.1.1 hp.1.2 k hk.1.2 (fun _ => hov _)).1
  have hb1 := (Btdmp.skip_eq_ticks _ hp.2.1 hp.2.2 k hk.2 (fun _ => hov _)).1
  unfold Bus.skip busTimerSkipFixed
  rw [ht0, ht1, hb0, hb1]
  simp only [vec2_set]
  rfl

/-- `core_timing.Skip(m)` of the machine is `min m horizon` quiet ticks. -/
theorem skip_eq_ticked (c : Core) (hq : BusOk c.bus) (m : Nat) (hm : m < 2 ^ 63) :
    skip c m = .ok (ticked (min m c.bus.maxSkip) c, min m c.bus.maxSkip) := by
  unfold skip Bus.coreSkip
  simp only []
  rw [bus_skip_eq c.bus hq _ (Nat.min_le_right _ _) (by omega)]
  simp only [Core.emit_audio]
  rfl

end Sys
end Teakra
