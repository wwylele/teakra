import Proofs.C06Sys
import Proofs.C07.Entry
/-!
# C06 — the upstream witness: with the pinned `Run` the fast-forward skips over a pending interrupt latch
-/
namespace Teakra.Sys
open Exec ExecLemmas Interp

/-- The witness: reset registers with interrupts enabled (`ie = 1`, `im0 = 1`), the word `0x57F0`
(`brr -1`, condition `true`) at `pc = 0`, the core idle, and interrupt latch 0 pending. -/
def upstreamWitness : Core :=
  { regs := { ie := 1, im := #v[1, 0, 0] },
    bus := { mem := Mem.write {} 0 0x57F0 },
    ipend := #v[true, false, false],
    idle := true }

theorem upstreamWitness_read :
    upstreamWitness.bus.programRead (fetchAddress upstreamWitness.regs) = .ok (0x57F0, [⟨0, false, 0⟩]) := by
  decide +kernel

theorem body_of_cycle (c c' : Core) (h : cycle.run c = .ok ((), c')) (hid : c'.idle = false) :
    body c = .ok { c' with log := c.log } := by
  have hi : idleOk { c' with log := c.log } = true := by
    unfold idleOk
    rw [show ({ c' with log := c.log } : Core).idle = c'.idle from rfl, hid]
    rfl
  unfold body
  rw [h]
  simp only []
  rw [hi]
  rfl

/-- On the witness the loop body does not idle: the pending latch becomes an interrupt entry
(`ie` cleared, `pc` at the vector of interrupt 0, `idle` cleared). -/
theorem upstream_body_enters_interrupt :
    ∃ c', body upstreamWitness = .ok c' ∧ c'.idle = false ∧ c'.regs.pc = 6 ∧ c'.regs.ie = 0 := by
  have hcyc := cycle_brr upstreamWitness 0x57F0 _ upstreamWitness_read (by decide) (by decide) (by decide)
    (by decide)
  -- line 0 is the one entered (`priority`), with the stack at 0xFFFF / 0xFFFE in ordinary memory
  have hp := priority (pre upstreamWitness [⟨0, false, 0⟩]) 0 (by decide) rfl ⟨by decide, by decide⟩ (by decide)
  rw [hp.2.1, entry_pushes_next_pc_ordinary 0 _ 0x2FFFF 0x2FFFE ⟨by decide, by decide, by decide⟩
    ⟨by decide, by decide, by decide⟩] at hcyc
  have hi := intPart_entryRegs 0 (pre upstreamWitness [⟨0, false, 0⟩]).regs
  exact ⟨_, body_of_cycle _ _ hcyc rfl, rfl, congrArg IntPart.pc hi, congrArg IntPart.ie hi⟩

/-- **The upstream defect (pinned tree, `fixed = false`).**  The fast-forward is taken although an
interrupt latch is pending, and the loop body it skips is *not* the identity on that state. -/
theorem upstream_skip_not_idle :
    (ops false).skipAllowed upstreamWitness = true ∧
    (ops false).body upstreamWitness ≠ .ok upstreamWitness := by
  refine ⟨by decide, ?_⟩
  obtain ⟨c', hb, hidle, _, _⟩ := upstream_body_enters_interrupt
  show body upstreamWitness ≠ _
  rw [hb]
  intro h
  injection h with h
  rw [h] at hidle
  exact absurd hidle (by decide)

/-- With the `fix:` commit the fast-forward is not taken on the witness. -/
theorem fixed_no_skip : (ops true).skipAllowed upstreamWitness = false := by decide

theorem P_upstreamWitness : P upstreamWitness := by
  refine ⟨?_, by decide, by decide, by decide⟩
  unfold idleOk brrSelf
  rw [upstreamWitness_read]
  decide

/-- The (idle, self-branching) witness satisfies the invariant of `run_eq_steps`. -/
example : P upstreamWitness := P_upstreamWitness

end Teakra.Sys
