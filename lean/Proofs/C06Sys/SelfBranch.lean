import Proofs.Lemmas.Decoder
import Proofs.Cycle.Book
/-!
# C06 (system part) — the loop body `cycle` on a self-branch

`cycle_brr`: when the word at `pc` is `brr -1` whose condition holds, no `rep` is running and the
block-repeat bookkeeping does not fire, the loop body is: move the latches into `ip`/`ipv`, log
the fetch, set `idle`, run the interrupt block — for arbitrary latches and arbitrary incoming
`idle` flag.
-/
namespace Teakra.Sys
open Exec ExecLemmas Interp

/-- A word `0x57F0 | cond` decodes to table entry 105 (`brr RelAddr7, Cond`, fixed bits `0x5000` under
mask `0xF800`), one word, with operands `RelAddr7 = 0x7F` (−1) and `Cond = cond`. -/
theorem decode_brrSelf (w : Nat) (hw : w &&& 0xFFF0 = 0x57F0) (hlt : w < 0x10000) :
    ∃ p, decoderArray.getD w none = some p ∧ p.idx = 105 ∧ p.expanded = false ∧
      p.extract w 0 = [0x7F, w % 16] := by
  obtain ⟨p, hp⟩ : ∃ p, instrTable[105]? = some p := ⟨_, rfl⟩
  have hm : p.matchesWord w = true := by
    have h1 : w &&& 0xF800 = 0x5000 := and_submask hw 0xF800 rfl
    cases Option.some.inj hp
    simp [InstrPat.matchesWord, h1]
  refine ⟨p, decoderArray_of_matches (List.mem_of_getElem? hp) hlt hm, ?_⟩
  cases Option.some.inj hp
  refine ⟨rfl, rfl, ?_⟩
  -- bits 4..10 of `w` are those of `0x57F0`
  have h2 : (w >>> 4) % 2 ^ 7 = 0x7F := by
    have h3 : w &&& 0x7F0 = 0x7F0 := and_submask hw 0x7F0 rfl
    rw [← Nat.and_two_pow_sub_one_eq_mod]
    show (w >>> 4) &&& (0x7F0 >>> 4) = _
    rw [← Nat.shiftRight_and_distrib, h3]
    rfl
  simp [InstrPat.extract, h2]

theorem condHolds_eq (c : Core) (k : Nat) : condHolds c k = condVal (Cond.name k) c.regs := rfl

theorem dispatch_105 (o : List Nat) :
    dispatch 105 o = Exec.brr_RelAddr7_Cond (o.getD 0 0) (o.getD 1 0) := rfl

theorem loopBook_of_loopClear (r : Regs) (h : loopClear r = true) : loopBook (bumpPc r) = .ok (bumpPc r) := by
  unfold loopClear at h
  by_cases hlp : r.lp = 0
  · exact book_loop_off _ hlp
  · simp only [Bool.or_eq_true, beq_iff_eq, hlp, false_or, Bool.and_eq_true, bne_iff_ne, ne_eq,
      decide_eq_true_eq] at h
    obtain ⟨⟨hb, hi⟩, he⟩ := h
    have hb' : r.bcn.toNat = r.bcn.toNat - 1 + 1 := by
      have : r.bcn.toNat ≠ 0 := fun e => hb (BitVec.eq_of_toNat_eq e)
      omega
    rw [toArray_getD _ _ hi] at he
    exact book_loop_inside (bumpPc r) _ hlp hb' hi he

theorem condVal_withIp (cv : CondValue) (r : Regs) (ip : Vector U16 3) (ipv : U16) :
    condVal cv (withIp r ip ipv) = condVal cv r :=
  condVal_congr cv rfl

theorem relAddr7_m1 : relAddr7 127 = 0xFFFFFFFF := by decide

theorem brr_back (r : Regs) : { bumpPc r with pc := (bumpPc r).pc + relAddr7 127 } = r := by
  have h : (bumpPc r).pc + relAddr7 127 = r.pc := by
    rw [bumpPc_pc, relAddr7_m1]; bv_omega
  rw [h]; cases r; rfl

theorem brr_self_run (c : Core) (r : Regs) (k : Nat) (hcond : condVal (Cond.name k) r = true) :
    (Exec.brr_RelAddr7_Cond 0x7F k).run { c with regs := bumpPc r } =
      .ok ((), { c with regs := r, idle := true }) := by
  unfold Exec.brr_RelAddr7_Cond
  rw [run_ifCond, condVal_bumpPc, hcond, if_pos rfl, run_bind, run_modifyRegs, except_ok_bind, snd_mk,
    if_pos (beq_iff_eq.2 relAddr7_m1), run_modify]
  show Except.ok ((), ({ c with regs := { bumpPc r with pc := (bumpPc r).pc + relAddr7 127 }, idle := true } : Core)) = _
  rw [brr_back]

theorem brrSelf_spec (c : Core) (h : brrSelf c = true) :
    ∃ w accs, c.bus.programRead (fetchAddress c.regs) = .ok (w, accs) ∧ w &&& 0xFFF0 = 0x57F0 ∧
      condVal (Cond.name (w.toNat % 16)) c.regs = true ∧ c.regs.rep = false ∧
      loopClear c.regs = true ∧ deliverable c.regs = false := by
  unfold brrSelf at h
  split at h
  · rename_i w accs hr
    simp only [Bool.and_eq_true, beq_iff_eq, Bool.not_eq_true', condHolds_eq] at h
    exact ⟨w, accs, hr, h.1.1.1.1, h.1.1.1.2, h.1.1.2, h.1.2, h.2⟩
  · cases h

/-- The state in which the interrupt block of the loop body runs when the instruction executed is
the self-branch: latches moved into `ip`/`ipv`, the fetch logged, `idle` set. -/
def pre (c : Core) (accs : List Access) : Core :=
  { c with regs := latchAll c, ipend := Vector.replicate 3 false, vpend := false,
           log := accs.reverse ++ c.log, idle := true }

/-- **The loop body on a self-branch**, whatever the latches and the incoming `idle` flag: it is
the interrupt block run in `pre c accs`. -/
theorem cycle_brr (c : Core) (w : U16) (accs : List Access)
    (hread : c.bus.programRead (fetchAddress c.regs) = .ok (w, accs))
    (hw : w &&& 0xFFF0 = 0x57F0) (hcond : condVal (Cond.name (w.toNat % 16)) c.regs = true)
    (hrep : c.regs.rep = false) (hloop : loopClear c.regs = true) :
    cycle.run c = interruptCheck.run (pre c accs) := by
  have hwn : w.toNat &&& 0xFFF0 = 0x57F0 := by simpa using congrArg BitVec.toNat hw
  obtain ⟨p, hdec, hidx, hexp, hext⟩ := decode_brrSelf w.toNat hwn w.isLt
  have hl := latchAll_spec c
  have hbook : loopBook (repBook (bumpPc (latchAll c))) = .ok (bumpPc (latchAll c)) := by
    rw [hl]
    exact (congrArg loopBook (if_neg (by rw [bumpPc_rep]; exact Bool.eq_false_iff.1 hrep))).trans
      (loopBook_of_loopClear _ hloop)
  rw [cycle_one c w accs p (fetchAddress_latchAll c ▸ hread) hdec hexp, hbook]
  show StateT.run (dispatch p.idx (p.extract w.toNat 0) >>= fun _ => interruptCheck) _ = _
  rw [run_bind, hidx, hext, dispatch_105]
  simp only [List.getD_cons_zero, List.getD_cons_succ]
  rw [brr_self_run ({ latched c with log := accs.reverse ++ c.log } : Core) (latchAll c) (w.toNat % 16)
    (by rw [hl, condVal_withIp]; exact hcond), except_ok_bind]
  rfl

end Teakra.Sys
