import Proofs.C08.Ctx
/-!
# C08 — calls, returns, stack push/pop and context switches restore state exactly

This file and `Proofs/C08/Ctx.lean`: the bank exchanges and the context store/restore pair at the level of the
register file.  The other part - call/return, interrupt entry/return and push/pop on the stack - is
`Proofs/C08Stack.lean` with `Proofs/C08Stack/*`; the check builds `Proofs.C08Stack`, which imports this file.
-/
namespace Teakra.Interp
open Teakra Exec ExecLemmas

private theorem set_eta (ss : Vector ArShadow n) (i : Nat) (h : i < n) :
    ss.set i { rni := ss[i].rni, rnj := ss[i].rnj, stepi := ss[i].stepi, stepj := ss[i].stepj,
               offseti := ss[i].offseti, offsetj := ss[i].offsetj } h = ss :=
  Vector.set_getElem_self h

theorem swapAr_involutive (r : Regs) (i : Fin 2) : swapArPure (swapArPure r i) i = r := by
  unfold swapArPure
  simp only [vset_eq _ _ _ (show i.val * 2 < 4 by omega), vset_eq _ _ _ (show i.val * 2 + 1 < 4 by omega),
    toArray_getD _ _ (show i.val * 2 < 4 by omega) (0 : U16), toArray_getD _ _ (show i.val * 2 + 1 < 4 by omega) (0 : U16)]
  cases r
  simp [Vector.set_comm _ _ (show i.val * 2 + 1 ≠ i.val * 2 by omega), Vector.set_set, Vector.set_getElem_self, set_eta]

theorem swapArp_involutive (r : Regs) (i : Fin 4) : swapArpPure (swapArpPure r i) i = r := by
  unfold swapArpPure
  cases r
  simp [Vector.set_set, Vector.set_getElem_self, set_eta]

theorem swapArp_comm (r : Regs) (i j : Fin 4) (h : i ≠ j) :
    swapArpPure (swapArpPure r i) j = swapArpPure (swapArpPure r j) i := by
  have hne : i.val ≠ j.val := fun e => h (Fin.ext e)
  unfold swapArpPure
  cases r
  simp only [Fin.getElem_fin, Vector.getElem_set_ne _ _ hne, Vector.getElem_set_ne _ _ hne.symm,
    Vector.set_comm _ _ hne]

theorem swapAr_comm (r : Regs) (i j : Fin 2) (h : i ≠ j) :
    swapArPure (swapArPure r i) j = swapArPure (swapArPure r j) i := by
  have hne : i.val ≠ j.val := fun e => h (Fin.ext e)
  have b0 : i.val * 2 < 4 := by omega
  have b1 : i.val * 2 + 1 < 4 := by omega
  have c0 : j.val * 2 < 4 := by omega
  have c1 : j.val * 2 + 1 < 4 := by omega
  have n00 : i.val * 2 ≠ j.val * 2 := by omega
  have n10 : i.val * 2 + 1 ≠ j.val * 2 := by omega
  have n01 : i.val * 2 ≠ j.val * 2 + 1 := by omega
  have n11 : i.val * 2 + 1 ≠ j.val * 2 + 1 := by omega
  unfold swapArPure
  simp only [vset_eq _ _ _ b0, vset_eq _ _ _ b1, vset_eq _ _ _ c0, vset_eq _ _ _ c1,
    toArray_getD _ _ b0 (0 : U16), toArray_getD _ _ b1 (0 : U16), toArray_getD _ _ c0 (0 : U16), toArray_getD _ _ c1 (0 : U16)]
  cases r
  simp only [Fin.getElem_fin, Vector.getElem_set_ne _ _ hne, Vector.getElem_set_ne _ _ hne.symm,
    Vector.getElem_set_ne _ _ n00, Vector.getElem_set_ne _ _ n10, Vector.getElem_set_ne _ _ n01,
    Vector.getElem_set_ne _ _ n11, Vector.getElem_set_ne _ _ n00.symm, Vector.getElem_set_ne _ _ n10.symm,
    Vector.getElem_set_ne _ _ n01.symm, Vector.getElem_set_ne _ _ n11.symm,
    Vector.set_comm _ _ hne, Vector.set_comm _ _ n00, Vector.set_comm _ _ n10, Vector.set_comm _ _ n01,
    Vector.set_comm _ _ n11]

theorem swapAr_swapArp_comm (r : Regs) (i : Fin 2) (k : Fin 4) :
    swapArPure (swapArpPure r k) i = swapArpPure (swapArPure r i) k := by
  unfold swapArPure swapArpPure
  cases r
  rfl

/-- `RegisterState::SwapAllArArp` (the `bankr` instruction without operands) applied twice is the
identity. -/
theorem swapAllArArp_involutive (r : Regs) : swapAllArArpPure (swapAllArArpPure r) = r := by
  unfold swapAllArArpPure
  simp only [swapAr_swapArp_comm, swapAr_comm _ 1 0 (by decide), swapAr_involutive,
    swapArp_comm _ 1 0 (by decide), swapArp_comm _ 2 0 (by decide), swapArp_comm _ 3 0 (by decide),
    swapArp_comm _ 2 1 (by decide), swapArp_comm _ 3 1 (by decide), swapArp_comm _ 3 2 (by decide),
    swapArp_involutive]

theorem shadowSwapRegisters_involutive (r : Regs) :
    shadowSwapRegistersPure (shadowSwapRegistersPure r) = r := by
  cases r; rfl

/-- **Two-way banks.**  `RegisterState::ShadowSwap` applied twice restores every swapped register
and every shadow: nothing is lost in a context switch followed by its inverse. -/
theorem shadowSwap_involutive (r : Regs) : shadowSwapPure (shadowSwapPure r) = r := by
  -- the register exchange commutes with `ShadowSwap`, so it meets itself and the bank swaps meet
  show swapAllArArpPure (shadowSwapRegistersPure (shadowSwapPure r)) = r
  rw [← shadowSwap_comm shadowSwapRegistersPure (fun r _ => by cases r; rfl) (fun r _ => by cases r; rfl)
    (fun _ => rfl), shadowSwapPure, shadowSwapRegisters_involutive, swapAllArArp_involutive]

/-! ## context store followed by context restore -/

/-- What a context store followed by a context restore leaves in the context part: everything as it
was, except that the hidden one-way save slots have taken the saved values. -/
def savedSlots (n : CtxPart) : CtxPart :=
  { n with
    sh_flm := n.flm, sh_fvl := n.fvl, sh_fe := n.fe, sh_fc0 := n.fc0, sh_fc1 := n.fc1,
    sh_fv := n.fv, sh_fn := n.fn, sh_fm := n.fm, sh_fz := n.fz, sh_fr := n.fr,
    repcs := if n.crep == 0 then n.repc else n.repcs,
    a1s := if n.ccnta == 0 then n.a[1] else n.a1s,
    b1s := if n.ccnta == 0 then n.b[1] else n.b1s }

private theorem vec2_restore (a : Vector U64 2) (x : U64) : (a.set 1 x).set 1 a[1] = a := by
  rw [Vector.set_set, Vector.set_getElem_self]

private theorem ctx_roundtrip (n : CtxPart) :
    restoreTail (loadFlagsCtx (storeTail (saveFlagsCtx n))) = savedSlots n := by
  unfold restoreTail loadFlagsCtx storeTail saveFlagsCtx savedSlots
  by_cases h1 : n.crep = 0 <;> by_cases h2 : n.ccnta = 0 <;> cases n <;> simp_all

/-- **Context store followed by context restore** (explicit `cntx s; cntx r`, or interrupt entry
with context switch followed by `retic`/`reti` with restore) leaves every program-visible register
and every two-way bank as it was, for all four `(crep, ccnta)` settings; only the hidden one-way
save slots (`sh_*`, `repcs`, `a1s`, `b1s`) take the saved values. -/
theorem cntx_r_cntx_s (r : Regs) :
    contextRestorePure (contextStorePure r) = ctxApply savedSlots r := by
  unfold contextRestorePure contextStorePure
  rw [shadowSwap_ctxApply, shadowSwap_ctxApply, shadowSwap_involutive, ctxApply_ctxApply, ctxApply_ctxApply,
    ctxApply_ctxApply]
  -- `rw`, not `congrArg (setCtx r)`: unifying through `setCtx` compares 243 fields
  unfold ctxApply
  rw [Function.comp_apply, Function.comp_apply, Function.comp_apply, ctx_roundtrip]

/-- … at the level of the monadic instruction handlers. -/
theorem cntx_r_cntx_s_run (c : Core) :
    (do contextStore; contextRestore : Exec Unit).run c =
      .ok ((), { c with regs := ctxApply savedSlots c.regs }) := by
  simp only [run_bind, contextStore_run, except_ok_bind, contextRestore_run, cntx_r_cntx_s]

/-! ## bank exchanges (`banke`, `bankr`) -/

private theorem vec8_swap_back (v : Vector U16 8) (i : Nat) (h : i < 8) (x : U16) :
    (v.set i x h).set i v[i] h = v := by
  rw [Vector.set_set, Vector.set_getElem_self]

open Teakra.Exec (bkI bkJ bkR4 bkR1 bkR0 bkR7)

/-- `banke` as a function on the register file (same order as the C++). -/
def bankePure (f : BankFlags) (r : Regs) : Regs :=
  let r := if f.cfgi then bkI r else r
  let r := if f.r4 then bkR4 r else r
  let r := if f.r1 then bkR1 r else r
  let r := if f.r0 then bkR0 r else r
  let r := if f.r7 then bkR7 r else r
  if f.cfgj then bkJ r else r

theorem banke_run (flags : Nat) (c : Core) :
    (Exec.banke_BankFlags flags).run c = .ok ((), { c with regs := bankePure (BankFlags.decode flags) c.regs }) := by
  unfold Exec.banke_BankFlags bankePure
  simp only [↓run_ite_modifyRegs_bind, run_ite_modifyRegs]

/-- `bkI r` is one branch of its `if` (`if_pos h` / `if_neg h` up to unfolding); the condition reads `stp16`, which no
exchange writes, so the second exchange takes the same branch, and the two together are `r` field by field. -/
private theorem bkI_inv (r : Regs) : bkI (bkI r) = r := by
  by_cases h : (r.stp16 != 0) = true
  · rw [show bkI r = _ from if_pos h]
    exact if_pos h
  · rw [show bkI r = _ from if_neg h]
    exact if_neg h
private theorem bkJ_inv (r : Regs) : bkJ (bkJ r) = r := by
  by_cases h : (r.stp16 != 0) = true
  · rw [show bkJ r = _ from if_pos h]
    exact if_pos h
  · rw [show bkJ r = _ from if_neg h]
    exact if_neg h
private theorem bkR4_inv (r : Regs) : bkR4 (bkR4 r) = r := by
  unfold bkR4; cases r; simp
private theorem bkR1_inv (r : Regs) : bkR1 (bkR1 r) = r := by
  unfold bkR1; cases r; simp
private theorem bkR0_inv (r : Regs) : bkR0 (bkR0 r) = r := by
  unfold bkR0; cases r; simp
private theorem bkR7_inv (r : Regs) : bkR7 (bkR7 r) = r := by
  unfold bkR7; cases r; simp

private theorem c_I_J (r : Regs) : bkJ (bkI r) = bkI (bkJ r) := by
  by_cases h : (r.stp16 != 0) = true
  · rw [show bkI r = _ from if_pos h, show bkJ r = _ from if_pos h]
    exact (if_pos h).trans (if_pos h).symm
  · rw [show bkI r = _ from if_neg h, show bkJ r = _ from if_neg h]
    exact (if_neg h).trans (if_neg h).symm

-- `c_I_Rn`, `c_Rn_J`: the exchange of `r[n]` with its bank copy goes through the `if` of `bkI` / `bkJ`; in each branch
-- the two write different fields
private theorem c_I_R4 (r : Regs) : bkR4 (bkI r) = bkI (bkR4 r) := by
  unfold bkI
  exact apply_ite bkR4 _ _ _
private theorem c_I_R1 (r : Regs) : bkR1 (bkI r) = bkI (bkR1 r) := by
  unfold bkI
  exact apply_ite bkR1 _ _ _
private theorem c_I_R0 (r : Regs) : bkR0 (bkI r) = bkI (bkR0 r) := by
  unfold bkI
  exact apply_ite bkR0 _ _ _
private theorem c_I_R7 (r : Regs) : bkR7 (bkI r) = bkI (bkR7 r) := by
  unfold bkI
  exact apply_ite bkR7 _ _ _
private theorem c_R4_J (r : Regs) : bkJ (bkR4 r) = bkR4 (bkJ r) := by
  unfold bkJ
  symm
  exact apply_ite bkR4 _ _ _
private theorem c_R1_J (r : Regs) : bkJ (bkR1 r) = bkR1 (bkJ r) := by
  unfold bkJ
  symm
  exact apply_ite bkR1 _ _ _
private theorem c_R0_J (r : Regs) : bkJ (bkR0 r) = bkR0 (bkJ r) := by
  unfold bkJ
  symm
  exact apply_ite bkR0 _ _ _
private theorem c_R7_J (r : Regs) : bkJ (bkR7 r) = bkR7 (bkJ r) := by
  unfold bkJ
  symm
  exact apply_ite bkR7 _ _ _

private theorem c_R4_R1 (r : Regs) : bkR1 (bkR4 r) = bkR4 (bkR1 r) := by
  unfold bkR4 bkR1; cases r
  simp [Vector.set_comm _ _ (show 4 ≠ 1 by decide)]
private theorem c_R4_R0 (r : Regs) : bkR0 (bkR4 r) = bkR4 (bkR0 r) := by
  unfold bkR4 bkR0; cases r
  simp [Vector.set_comm _ _ (show 4 ≠ 0 by decide)]
private theorem c_R4_R7 (r : Regs) : bkR7 (bkR4 r) = bkR4 (bkR7 r) := by
  unfold bkR4 bkR7; cases r
  simp [Vector.set_comm _ _ (show 4 ≠ 7 by decide)]
private theorem c_R1_R0 (r : Regs) : bkR0 (bkR1 r) = bkR1 (bkR0 r) := by
  unfold bkR1 bkR0; cases r
  simp [Vector.set_comm _ _ (show 1 ≠ 0 by decide)]
private theorem c_R1_R7 (r : Regs) : bkR7 (bkR1 r) = bkR1 (bkR7 r) := by
  unfold bkR1 bkR7; cases r
  simp [Vector.set_comm _ _ (show 1 ≠ 7 by decide)]
private theorem c_R0_R7 (r : Regs) : bkR7 (bkR0 r) = bkR0 (bkR7 r) := by
  unfold bkR0 bkR7; cases r
  simp [Vector.set_comm _ _ (show 0 ≠ 7 by decide)]

/-- `g` if `b`: one step of `bankePure`. -/
def applyIf (b : Bool) (g : Regs → Regs) (r : Regs) : Regs := if b then g r else r

theorem applyIf_applyIf (b : Bool) {g : Regs → Regs} (h : ∀ r, g (g r) = r) (r : Regs) :
    applyIf b g (applyIf b g r) = r := by
  cases b
  · rfl
  · exact h r

theorem applyIf_comm (b b' : Bool) {g g' : Regs → Regs} (h : ∀ r, g' (g r) = g (g' r)) (r : Regs) :
    applyIf b' g' (applyIf b g r) = applyIf b g (applyIf b' g' r) := by
  cases b <;> cases b' <;> first | rfl | exact h r

/-- **A bank exchange applied twice** leaves every register and every two-way bank as it was, for
every selection of banks: the six exchanges are involutions and commute with each other. -/
theorem banke_involutive (f : BankFlags) (r : Regs) : bankePure f (bankePure f r) = r := by
  show applyIf f.cfgj bkJ (applyIf f.r7 bkR7 (applyIf f.r0 bkR0 (applyIf f.r1 bkR1 (applyIf f.r4 bkR4
    (applyIf f.cfgi bkI (applyIf f.cfgj bkJ (applyIf f.r7 bkR7 (applyIf f.r0 bkR0 (applyIf f.r1 bkR1
    (applyIf f.r4 bkR4 (applyIf f.cfgi bkI r))))))))))) = r
  -- every `c_X_Y` rewrites one way only: it moves the exchange that is earlier in `bankePure` outwards.  So the fifteen
  -- sort the twelve steps and stop, and equal neighbours cancel by `applyIf_applyIf`
  simp only [applyIf_comm _ _ c_I_J, applyIf_comm _ _ c_I_R4, applyIf_comm _ _ c_I_R1, applyIf_comm _ _ c_I_R0,
    applyIf_comm _ _ c_I_R7, applyIf_comm _ _ c_R4_J, applyIf_comm _ _ c_R1_J, applyIf_comm _ _ c_R0_J,
    applyIf_comm _ _ c_R7_J, applyIf_comm _ _ c_R4_R1, applyIf_comm _ _ c_R4_R0, applyIf_comm _ _ c_R4_R7,
    applyIf_comm _ _ c_R1_R0, applyIf_comm _ _ c_R1_R7, applyIf_comm _ _ c_R0_R7,
    applyIf_applyIf _ bkI_inv, applyIf_applyIf _ bkJ_inv, applyIf_applyIf _ bkR4_inv, applyIf_applyIf _ bkR1_inv,
    applyIf_applyIf _ bkR0_inv, applyIf_applyIf _ bkR7_inv]

/-- `bankr` without operands (all `ar`/`arp` banks) applied twice is the identity; likewise the
single-bank forms. -/
theorem bankr_involutive (c : Core) :
    (do Exec.bankr; Exec.bankr : Exec Unit).run c = .ok ((), c) := by
  unfold Exec.bankr
  simp only [run_bind, run_modifyRegs, except_ok_bind, swapAllArArp_involutive]

theorem bankr_Ar_involutive (a : Nat) (c : Core) :
    (do Exec.bankr_Ar a; Exec.bankr_Ar a : Exec Unit).run c = .ok ((), c) := by
  unfold Exec.bankr_Ar
  simp only [run_bind, run_modifyRegs, except_ok_bind, swapAr_involutive]

theorem bankr_Arp_involutive (a : Nat) (c : Core) :
    (do Exec.bankr_Arp a; Exec.bankr_Arp a : Exec Unit).run c = .ok ((), c) := by
  unfold Exec.bankr_Arp
  simp only [run_bind, run_modifyRegs, except_ok_bind, swapArp_involutive]

end Teakra.Interp
