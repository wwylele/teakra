import TeakraModel.Generated.MmioBind
import TeakraModel.Golden.MmioBind
/-!
The cell bindings translated from `src/mmio.cpp` of the tree under test equal the committed translation of the pinned tree,
against which the per-cell read/write functions of `TeakraModel/Mmio.lean` were written.
-/
namespace Teakra

theorem bind_eq_golden : Generated.mmioBind = Golden.mmioBind ∧ Generated.mmioDups = Golden.mmioDups := ⟨rfl, rfl⟩

end Teakra
