import Proofs.Mmio.Xfer
/-!
# C13 — a DMA transfer copies exactly the documented 3-D strided element sequence

Property theorems about `Teakra.Dma` / `Teakra.DmaChannel` (model of `src/dma.cpp`) and
`Teakra.AhbmChannel` (model of `src/ahbm.cpp`); the tie to the C++ is the `dma` correspondence
slice.

* `dma_trace` — the cursor pairs visited by the `Tick` loop are the closed-form list `spec`
  (zero sizes as one, double-word mode counting by two), for **every** configuration (the code
  under test has the repaired 32-bit cursor counters);
* `dma_hangs_upstream` — with the upstream `u16` counters the loop did not end for
  `dword_mode ≠ 0 ∧ size0 = 0xFFFF` (the repaired defect, kept as a proved witness);
* `dma_terminates`, `dma_run_eq_fold`, `dma_memory`, `dma_memory_frame`, `dma_irq_once`;
* AHBM: `aligned_unit_exact_*`, `burst_transparent_write`, `burst_transparent_read`, and the
  excluded points as proved examples (`burst_tail_lost`, `burst_tail_stale`,
  `ext_to_ext_burst_misplaced`).

How `dma_trace` goes: `advance_atPos` gives the orbit of `Start` under the counter half of `Tick`
in closed form (`atPos`); `Seg.loop` — a counted loop visits the concatenation of its bodies — is
then used once per dimension.
-/
namespace Teakra
open DmaChannel

/-- Offset of the cursor at element `(k2,k1,k0)` from its start, with steps `s0 s1 s2` and
`m0 = n0 - 1`, `m1 = n1 - 1`.  After an element `Tick` adds exactly one of the three steps and
never rewinds the cursor: at a row end it adds `step1` on top of the `m0` `step0`s already taken,
at a plane end `step2` on top of everything.  So the offset is
`s0`·(earlier elements that did not end a row) `+ s1`·(earlier rows that did not end a plane)
`+ s2`·(earlier planes); `elemOff_step0/1/2` are the three cases. -/
def elemOff (s0 s1 s2 m0 m1 k2 k1 k0 : Nat) : Nat :=
  s0 * (k0 + m0 * (k1 + (m1 + 1) * k2)) + s1 * (k1 + m1 * k2) + s2 * k2

private theorem elemOff_step0 (s0 s1 s2 m0 m1 k2 k1 k0 : Nat) :
    elemOff s0 s1 s2 m0 m1 k2 k1 (k0 + 1) = elemOff s0 s1 s2 m0 m1 k2 k1 k0 + s0 := by
  unfold elemOff; grind
private theorem elemOff_step1 (s0 s1 s2 m0 m1 k2 k1 : Nat) :
    elemOff s0 s1 s2 m0 m1 k2 (k1 + 1) 0 = elemOff s0 s1 s2 m0 m1 k2 k1 m0 + s1 := by
  unfold elemOff; grind
private theorem elemOff_step2 (s0 s1 s2 m0 m1 k2 : Nat) :
    elemOff s0 s1 s2 m0 m1 (k2 + 1) 0 0 = elemOff s0 s1 s2 m0 m1 k2 m1 m0 + s2 := by
  unfold elemOff; grind

/-- `addr_src_low | ((u32)addr_src_high << 16)` -/
def srcBase (c : DmaChannel) : U32 := c.addrSrcHigh ++ c.addrSrcLow
/-- `addr_dst_low | ((u32)addr_dst_high << 16)` -/
def dstBase (c : DmaChannel) : U32 := c.addrDstHigh ++ c.addrDstLow

/-- Source cursor of element `(k2,k1,k0)`: 32-bit start address plus the offset, modulo 2^32
(steps are unsigned 16-bit increments). -/
def srcAt (c : DmaChannel) (k2 k1 k0 : Nat) : U32 :=
  srcBase c + BitVec.ofNat 32 (elemOff c.srcStep0.toNat c.srcStep1.toNat c.srcStep2.toNat (c.n0 - 1) (c.n1 - 1) k2 k1 k0)
def dstAt (c : DmaChannel) (k2 k1 k0 : Nat) : U32 :=
  dstBase c + BitVec.ofNat 32 (elemOff c.dstStep0.toNat c.dstStep1.toNat c.dstStep2.toNat (c.n0 - 1) (c.n1 - 1) k2 k1 k0)

/-- The one family of configurations on which the *upstream* C++ loop did not end: double-word mode
counted dimension 0 by two in a `u16`, and with `size0 = 0xFFFF` the counter stepped 0xFFFE → 0
without ever being `≥ size0`.  Hypothesis of `dma_hangs_upstream` only: the theorems about the
repaired code hold on this family too. -/
def Excluded (c : DmaChannel) : Prop := c.dwordMode ≠ 0 ∧ c.size0 = 0xFFFF
instance : DecidablePred Excluded := fun _ => inferInstanceAs (Decidable (_ ∧ _))

/-- The `(current_src, current_dst)` pairs at which `Tick` moves an element, for at most `fuel`
ticks (`advance` is the counter/cursor half of `Tick`; it does not depend on memory). -/
def trace : Nat → DmaChannel → List (U32 × U32)
  | 0, _ => []
  | f + 1, c => if c.running = 0 then [] else (c.currentSrc, c.currentDst) :: trace f (advance c)

/-- The loop `while (running) Tick` ends within `fuel` ticks. -/
def stops : Nat → DmaChannel → Prop
  | 0, c => c.running = 0
  | f + 1, c => c.running = 0 ∨ stops f (advance c)

def elemAt (c : DmaChannel) (k2 k1 k0 : Nat) : U32 × U32 := (srcAt c k2 k1 k0, dstAt c k2 k1 k0)
def rowSpec (c : DmaChannel) (k2 k1 : Nat) : List (U32 × U32) := (List.range c.n0).map (elemAt c k2 k1)
def planeSpec (c : DmaChannel) (k2 : Nat) : List (U32 × U32) := (List.range c.n1).flatMap (rowSpec c k2)
/-- **The documented element sequence**: for `k2 < n2`, `k1 < n1`, `k0 < n0` in lexicographic order
(zero sizes count as one; in double-word mode `n0 = ⌈size0 / 2⌉`), the closed-form source and
destination cursor of element `(k2,k1,k0)`. -/
def spec (c : DmaChannel) : List (U32 × U32) := (List.range c.n2).flatMap (planeSpec c)

/-! ### segments of the tick loop -/

/-- From `s` the tick loop visits exactly the cursor pairs `l` and is then in `s'` (where it
spends whatever fuel is left). -/
def Seg (s : DmaChannel) (l : List (U32 × U32)) (s' : DmaChannel) : Prop :=
  ∀ f, trace (l.length + f) s = l ++ trace f s' ∧ (stops f s' → stops (l.length + f) s)

private theorem Seg.tick (s : DmaChannel) (h : s.running ≠ 0) :
    Seg s [(s.currentSrc, s.currentDst)] (advance s) := by
  intro f
  rw [List.length_singleton, Nat.add_comm]
  exact ⟨by simp only [trace, if_neg h, List.singleton_append], .inr⟩

private theorem Seg.append {s s' s'' : DmaChannel} {l l' : List (U32 × U32)} (h : Seg s l s') (h' : Seg s' l' s'') :
    Seg s (l ++ l') s'' := by
  intro f
  rw [List.length_append, Nat.add_assoc, (h _).1, (h' f).1, List.append_assoc]
  exact ⟨rfl, fun hs => (h _).2 ((h' f).2 hs)⟩

/-- A counted loop of `n ≥ 1` rounds: round `k` runs from `st k` over `body k` into round `k + 1`,
the last one into `exit`.  The loop visits the concatenation of the bodies. -/
private theorem Seg.loop (st : Nat → DmaChannel) (body : Nat → List (U32 × U32)) (exit : DmaChannel) (n : Nat)
    (hn : 0 < n) (h : ∀ k < n, Seg (st k) (body k) (if k + 1 < n then st (k + 1) else exit)) :
    Seg (st 0) ((List.range n).flatMap body) exit := by
  suffices ∀ d k, k + (d + 1) = n → Seg (st k) ((List.range' k (d + 1)).flatMap body) exit by
    rw [List.range_eq_range']
    obtain ⟨d, rfl⟩ : ∃ d, n = d + 1 := ⟨n - 1, by omega⟩
    exact this d 0 (by omega)
  intro d
  induction d with
  | zero =>
    intro k hk
    have := h k (by omega)
    rw [if_neg (by omega)] at this
    simpa using this
  | succ d ih =>
    intro k hk
    have := h k (by omega)
    rw [if_pos (by omega)] at this
    rw [List.range'_succ, List.flatMap_cons]
    exact this.append (ih (k + 1) (by omega))

/-! ### the channel at a position -/

private theorem n0_pos (c : DmaChannel) : 0 < c.n0 := by unfold n0; split <;> omega
private theorem n1_pos (c : DmaChannel) : 0 < c.n1 := by unfold n1; omega
private theorem n2_pos (c : DmaChannel) : 0 < c.n2 := by unfold n2; omega

/-- The started channel when `Tick` is about to move element `(k2,k1,k0)`: counters at the position
(dimension 0 in units of one or two), cursors at the closed form. -/
def atPos (c : DmaChannel) (k2 k1 k0 : Nat) : DmaChannel :=
  { c.start with counter0 := BitVec.ofNat 32 ((if c.dwordMode ≠ 0 then 2 else 1) * k0),
                 counter1 := BitVec.ofNat 32 k1, counter2 := BitVec.ofNat 32 k2,
                 currentSrc := srcAt c k2 k1 k0, currentDst := dstAt c k2 k1 k0 }

/-- The channel after the tick that moved the last element. -/
def halted (c : DmaChannel) : DmaChannel :=
  { atPos c (c.n2 - 1) (c.n1 - 1) (c.n0 - 1) with
    counter0 := 0, counter1 := 0, counter2 := BitVec.ofNat 32 (c.n2 - 1) + 1, running := 0 }

private theorem atPos_zero (c : DmaChannel) : atPos c 0 0 0 = c.start := by
  simp [atPos, start, srcAt, dstAt, srcBase, dstBase, elemOff]

private theorem counter_ge (x d : Nat) (size : U16) (h : x + d < 2 ^ 32) :
    BitVec.ofNat 32 x + BitVec.ofNat 32 d ≥ size.setWidth 32 ↔ size.toNat ≤ x + d := by
  rw [ge_iff_le, BitVec.le_def, ← BitVec.ofNat_add, BitVec.toNat_ofNat, BitVec.toNat_setWidth, Nat.mod_eq_of_lt h,
    Nat.mod_eq_of_lt (Nat.lt_trans size.isLt (by decide))]

private theorem wrap0 (c : DmaChannel) (k0 : Nat) (b0 : k0 < c.n0) :
    BitVec.ofNat 32 ((if c.dwordMode ≠ 0 then 2 else 1) * k0) + (if c.dwordMode ≠ 0 then 2 else 1) ≥ c.size0.setWidth 32
      ↔ ¬ k0 + 1 < c.n0 := by
  unfold n0 at *
  have hs := c.size0.isLt
  by_cases hd : c.dwordMode = 0 <;>
    simp only [hd, ne_eq, not_true_eq_false, not_false_eq_true, if_true, if_false] at b0 ⊢
  · exact (counter_ge (1 * k0) 1 _ (by omega)).trans (by omega)
  · exact (counter_ge (2 * k0) 2 _ (by omega)).trans (by omega)

private theorem wrap1 (size : U16) (k : Nat) (b : k < max size.toNat 1) :
    BitVec.ofNat 32 k + 1 ≥ size.setWidth 32 ↔ ¬ k + 1 < max size.toNat 1 := by
  have hs := size.isLt
  exact (counter_ge k 1 size (by omega)).trans (by omega)

private theorem cursor_step (b : U32) (x y : Nat) (s : U16) (h : y = x + s.toNat) :
    b + BitVec.ofNat 32 x + s.setWidth 32 = b + BitVec.ofNat 32 y := by
  rw [h, BitVec.add_assoc]; congr 1
  apply BitVec.eq_of_toNat_eq
  simp [BitVec.toNat_add, BitVec.toNat_setWidth]

private theorem eq_pred {k n : Nat} (b : k < n) (h : ¬ k + 1 < n) : k = n - 1 := by omega

/-- `advance` along the orbit of `start`: the lexicographic successor of the position, or the end. -/
theorem advance_atPos (c : DmaChannel) (k2 k1 k0 : Nat) (b0 : k0 < c.n0) (b1 : k1 < c.n1) (b2 : k2 < c.n2) :
    advance (atPos c k2 k1 k0) =
      if k0 + 1 < c.n0 then atPos c k2 k1 (k0 + 1)
      else if k1 + 1 < c.n1 then atPos c k2 (k1 + 1) 0
      else if k2 + 1 < c.n2 then atPos c (k2 + 1) 0 0
      else halted c := by
  have w0 := wrap0 c k0 b0
  have w1 : _ ↔ ¬ k1 + 1 < c.n1 := wrap1 c.size1 k1 b1
  have w2 : _ ↔ ¬ k2 + 1 < c.n2 := wrap1 c.size2 k2 b2
  -- `atPos` first: unfolded after `advance` it would stay folded inside the `Decidable` instances
  simp only [halted, atPos, start, srcAt, dstAt]
  simp only [advance, w0, w1, w2]
  by_cases h0 : k0 + 1 < c.n0
  · simp only [h0, not_true_eq_false, if_true, if_false]
    rw [cursor_step _ _ _ _ (elemOff_step0 ..), cursor_step _ _ _ _ (elemOff_step0 ..), Nat.mul_add_one,
      BitVec.ofNat_add]
    -- left: the increment `if _ then 2 else 1 : U32`, right: `BitVec.ofNat 32 (if _ then 2 else 1)`
    split <;> rfl
  obtain rfl := eq_pred b0 h0
  by_cases h1 : k1 + 1 < c.n1
  · simp only [h0, h1, not_true_eq_false, not_false_eq_true, if_true, if_false]
    rw [cursor_step _ _ _ _ (elemOff_step1 ..), cursor_step _ _ _ _ (elemOff_step1 ..), BitVec.ofNat_add]
    rfl
  obtain rfl := eq_pred b1 h1
  by_cases h2 : k2 + 1 < c.n2
  · simp only [h0, h1, h2, not_true_eq_false, not_false_eq_true, if_true, if_false]
    rw [cursor_step _ _ _ _ (elemOff_step2 ..), cursor_step _ _ _ _ (elemOff_step2 ..), BitVec.ofNat_add]
    rfl
  obtain rfl := eq_pred b2 h2
  simp only [h0, h1, h2, not_false_eq_true, if_true, if_false]

/-! ### the three nested loops -/

private theorem seg_row (c : DmaChannel) (k2 k1 : Nat) (b1 : k1 < c.n1) (b2 : k2 < c.n2) :
    Seg (atPos c k2 k1 0) (rowSpec c k2 k1)
      (if k1 + 1 < c.n1 then atPos c k2 (k1 + 1) 0 else if k2 + 1 < c.n2 then atPos c (k2 + 1) 0 0 else halted c) := by
  rw [rowSpec, List.map_eq_flatMap]
  refine Seg.loop (atPos c k2 k1) _ _ _ (n0_pos c) fun k0 b0 => ?_
  have := Seg.tick (atPos c k2 k1 k0) (by simp [atPos, start])
  rw [advance_atPos c k2 k1 k0 b0 b1 b2] at this
  exact this

private theorem seg_plane (c : DmaChannel) (k2 : Nat) (b2 : k2 < c.n2) :
    Seg (atPos c k2 0 0) (planeSpec c k2) (if k2 + 1 < c.n2 then atPos c (k2 + 1) 0 0 else halted c) :=
  Seg.loop (atPos c k2 · 0) _ _ _ (n1_pos c) fun k1 b1 => seg_row c k2 k1 b1 b2

private theorem seg_spec (c : DmaChannel) : Seg c.start (spec c) (halted c) := by
  rw [← atPos_zero]
  exact Seg.loop (atPos c · 0 0) _ _ _ (n2_pos c) fun k2 b2 => seg_plane c k2 b2

private theorem trace_stopped (f : Nat) (c : DmaChannel) (h : c.running = 0) : trace f c = [] := by
  cases f <;> simp [trace, h]

private theorem stops_stopped (f : Nat) (c : DmaChannel) (h : c.running = 0) : stops f c := by
  cases f <;> simp [stops, h]

/-- The documented sequence has `n0·n1·n2` elements. -/
theorem spec_length (c : DmaChannel) : (spec c).length = c.ticksBound := by
  simp [spec, planeSpec, rowSpec, ticksBound, List.length_flatMap, List.map_const', Nat.mul_comm]

/-- **The transfer visits exactly the documented element sequence, in order, and then stops.**
For every configuration (all `size0/1/2`, `step0/1/2`, both modes), the cursor pairs
at which `Tick` moves an element, started by `Start`, are the closed-form list `spec c` — for any
fuel of at least `ticksBound c = n0·n1·n2` — and the loop has ended by then. -/
theorem dma_trace (c : DmaChannel) (fuel : Nat) (hf : c.ticksBound ≤ fuel) :
    trace fuel c.start = spec c ∧ stops fuel c.start := by
  obtain ⟨f, rfl⟩ : ∃ f, fuel = (spec c).length + f := ⟨fuel - c.ticksBound, by rw [spec_length]; omega⟩
  have := seg_spec c f
  rw [trace_stopped f _ rfl, List.append_nil] at this
  exact ⟨this.1, this.2 (stops_stopped f _ rfl)⟩

section
variable {M E : Type} [DspMem M] [ExtMem E]

/-- The element move of `Tick` at an explicit cursor pair. -/
def xferAt (c : DmaChannel) (w : World M E) (p : U32 × U32) : R (World M E) :=
  xfer { c with currentSrc := p.1, currentDst := p.2 } w

private theorem xfer_eq_xferAt (c : DmaChannel) (w : World M E) :
    xfer c w = xferAt c w (c.currentSrc, c.currentDst) := rfl

/-- The element move at given cursors depends on the channel through four fields only, and `advance`
keeps them. -/
private theorem xferAt_advance (c : DmaChannel) : @xferAt M E _ _ (advance c) = xferAt c := by
  have h : (advance c).dwordMode = c.dwordMode ∧ (advance c).srcSpace = c.srcSpace ∧
      (advance c).dstSpace = c.dstSpace ∧ (advance c).ahbmChannel = c.ahbmChannel := by
    simp only [advance, apply_ite DmaChannel.dwordMode, apply_ite DmaChannel.srcSpace,
      apply_ite DmaChannel.dstSpace, apply_ite DmaChannel.ahbmChannel, ite_self, and_self]
  funext w p
  simp only [xferAt, xfer, h]

/-- The loop of `DoDma` is the fold of the element move over the cursor trace. -/
theorem run_trace (fuel : Nat) : ∀ (c : DmaChannel) (w : World M E), stops fuel c →
    (run fuel c w).map Prod.snd = (trace fuel c).foldlM (xferAt c) w := by
  induction fuel with
  | zero => intro c w h; simp [stops] at h; simp [run, trace, h, Except.map, pure, Except.pure]
  | succ f ih =>
    intro c w h
    by_cases hr : c.running = 0
    · simp [run, trace, hr, Except.map, pure, Except.pure]
    · simp only [stops, hr, false_or] at h
      simp only [run, trace, hr, if_false, List.foldlM_cons, tick, xfer_eq_xferAt]
      cases hx : xferAt c w (c.currentSrc, c.currentDst) with
      | error e => simp [Except.map, bind, Except.bind]
      | ok w' =>
        simp only [bind, Except.bind]
        rw [ih _ w' h, xferAt_advance]

private theorem run_eq_fold (c : DmaChannel) (a : U16) (fuel : Nat) (hf : c.ticksBound ≤ fuel)
    (w : World M E) :
    (run fuel { c.start with ahbmChannel := a } w).map Prod.snd =
      (spec c).foldlM (xferAt { c with ahbmChannel := a }) w := by
  have ht := dma_trace { c with ahbmChannel := a } fuel hf
  have hr := run_trace fuel ({ c with ahbmChannel := a } : DmaChannel).start w ht.2
  rw [ht.1] at hr
  exact hr

/-- **A transfer is the in-order fold of element moves over the documented sequence.**  The world
(DSP memory, AHBM state, external memory, callback log) after `Dma::DoDma` is the left fold of
`xferAt` — the data-moving half of `Tick` at an explicit cursor pair — over `spec`, with the same
abort behaviour, and the interrupt count is 1.  Holds for every source/destination space. -/
theorem dma_run_eq_fold (d : Dma) (w : World M E) (ch : U16) (h : ch.toNat < 8) :
    (d.doDma w ch).map (fun r => r.2) =
      ((spec d.channels[ch.toNat]).foldlM
        (xferAt { d.channels[ch.toNat] with ahbmChannel := w.ahbm.getChannelForDma ch.toNat }) w).map (·, 1) := by
  unfold Dma.doDma Dma.doDmaFuel
  rw [dif_pos h, dif_pos h, ← run_eq_fold _ _ _ (Nat.le_refl _) w]
  dsimp only
  rcases run _ _ w with e | ⟨c', w'⟩ <;> rfl

private theorem foldlM_error {α σ : Type} (f : σ → α → R σ) (P : Abort → Prop) (hf : ∀ s a e, f s a = .error e → P e)
    (l : List α) : ∀ s e, l.foldlM f s = .error e → P e := by
  induction l with
  | nil => nofun
  | cons a l ih =>
    intro s e h
    rcases Except.bind_eq_error.mp h with h | ⟨_, -, h⟩
    · exact hf _ _ _ h
    · exact ih _ _ h

/-- **Termination.**  `Dma::DoDma` never runs out of the fuel `ticksBound = n0·n1·n2` the model
gives it: the result is never `hang` (it is `ok`, or `oob` from a DSP-side
address outside the array / an AHBM channel index ≥ 3). -/
theorem dma_terminates (d : Dma) (w : World M E) (ch : U16) (h : ch.toNat < 8) :
    d.doDma w ch ≠ .error .hang := by
  intro hh
  have hf := (dma_run_eq_fold d w ch h).symm
  rw [hh] at hf
  exact Abort.noConfusion (foldlM_error _ (· = .oob) (fun w _ => (xfer_sat _ w).2) _ w _ (Except.map_eq_error.mp hf))

/-- **The DMA interrupt is raised exactly once on completion**: whenever `Dma::DoDma` completes,
`interrupt_handler()` has been invoked exactly once (and a transfer that does not complete raises
none: an abort carries no interrupt count). -/
theorem dma_irq_once (d : Dma) (w : World M E) (ch : U16) (d' : Dma) (w' : World M E) (n : Nat)
    (h : d.doDma w ch = .ok (d', w', n)) : n = 1 := by
  by_cases hc : ch.toNat < 8
  · have := (dma_run_eq_fold d w ch hc).symm.trans (congrArg _ h)
    obtain ⟨_, -, e⟩ := Except.map_eq_ok.mp this
    exact (congrArg Prod.snd e).symm
  · simp [Dma.doDma, hc] at h

/-- Writing the control register starts nothing unless the value is the magic `0x40C0`: only `z`
changes, no interrupt. -/
theorem setZ_starts_only_on_magic (d : Dma) (w : World M E) (v : U16) (hv : v ≠ 0x40C0) :
    d.setZ w v = (d.setActive ({ · with z := v })).map (·, w, 0) := by
  unfold Dma.setZ
  cases d.setActive _ with
  | error e => rfl
  | ok d' => simp only [Except.map]; rw [if_neg hv]

/-- Writing `0x40C0` to the control register is `DoDma` of the active channel (after storing `z`). -/
theorem setZ_magic (d d1 : Dma) (w : World M E)
    (h : d.setActive ({ · with z := 0x40C0 }) = .ok d1) :
    d.setZ w 0x40C0 = d1.doDma w d1.activeChannel := by
  unfold Dma.setZ; rw [h]; simp
end

/-! ## the defect that was present upstream (`u16` counters), kept as a proved witness -/

/-- Invariant of the non-terminating family of the upstream code: dimension-0 counter even, still
running. -/
def HangInv (c : DmaChannel) : Prop :=
  c.dwordMode ≠ 0 ∧ c.size0 = 0xFFFF ∧ c.counter0.toNat % 2 = 0 ∧ c.running = 1

private theorem hangInv_advance (c : DmaChannel) (h : HangInv c) : HangInv (advanceUpstream c) := by
  obtain ⟨hd, hs, he, hr⟩ := h
  -- the truncated counter stays even, and an even 16-bit counter never reaches the odd 0xFFFF
  have key : (trunc16 (c.counter0 + 2)).toNat % 2 = 0 ∧ (trunc16 (c.counter0 + 2)).toNat < 0xFFFF := by
    unfold trunc16; bv_omega
  have hc : ¬ (trunc16 (c.counter0 + 2) ≥ c.size0.setWidth 32) := by
    rw [hs, ge_iff_le, BitVec.le_def]
    exact Nat.not_le.mpr key.2
  simp only [advanceUpstream, hd, ne_eq, not_false_eq_true, if_true, hc, if_false, HangInv]
  exact ⟨trivial, hs, key.1, hr⟩

section
variable {M E : Type} [DspMem M] [ExtMem E]
private theorem run_hangs (fuel : Nat) : ∀ (c : DmaChannel) (w : World M E), HangInv c →
    ∀ r, runUpstream fuel c w ≠ .ok r := by
  induction fuel with
  | zero =>
    intro c w h r hr
    simp [runUpstream, h.2.2.2] at hr
  | succ f ih =>
    intro c w h r hr
    simp only [runUpstream, h.2.2.2, BitVec.reduceEq, if_false] at hr
    split at hr
    · exact ih _ _ (hangInv_advance c h) r hr
    · cases hr

/-- **The repaired defect, as a witness.**  With the upstream `u16` counters, a channel in
double-word mode with `size0 = 0xFFFF` never finished: `counter0 += 2` stepped 0xFFFE → 0 and was
never `≥ size0`, so for no amount of fuel did the upstream loop answer `ok` (`Dma::DoDma` did not
return and raised no interrupt).  The repaired `advance` (32-bit counters) is covered by
`dma_terminates` without exception. -/
theorem dma_hangs_upstream (c : DmaChannel) (a : U16) (hx : Excluded c) (fuel : Nat) (w : World M E) :
    ∀ r, runUpstream fuel { c.start with ahbmChannel := a } w ≠ .ok r :=
  run_hangs fuel _ w ⟨hx.1, hx.2, by simp [start], by simp [start]⟩
end

private theorem append_lo (hi lo : U16) : ((hi ++ lo : U32)).setWidth 16 = lo :=
  (BitVec.setWidth_eq_extractLsb' (by decide)).trans BitVec.extractLsb'_append_eq_right
private theorem append_hi (hi lo : U16) : (((hi ++ lo : U32)) >>> 16).setWidth 16 = hi :=
  BitVec.setWidth_ushiftRight_eq_extractLsb.trans BitVec.extractLsb'_append_eq_left

section
variable {M E : Type} [DspMem M] [ExtMem E]

/-- One element copy inside DSP memory. -/
def copyElem (dword : Bool) (m : M) (p : U32 × U32) : R M :=
  if dword then
    match dspIndex (p.1 &&& 0xFFFFFFFE), dspIndex (p.1 ||| 1), dspIndex (p.2 &&& 0xFFFFFFFE),
        dspIndex (p.2 ||| 1) with
    | some sl, some sh, some dl, some dh =>
      .ok (DspMem.write (DspMem.write m dl (DspMem.read m sl)) dh (DspMem.read m sh))
    | _, _, _, _ => .error .oob
  else
    match dspIndex p.1, dspIndex p.2 with
    | some s, some d => .ok (DspMem.write m d (DspMem.read m s))
    | _, _ => .error .oob

private theorem xferAt_dsp (c : DmaChannel) (hs : c.srcSpace = 0) (hd : c.dstSpace = 0) (w : World M E)
    (p : U32 × U32) :
    xferAt c w p = (copyElem (decide (c.dwordMode ≠ 0)) w.mem p).map (fun m => { w with mem := m }) := by
  simp only [xferAt, xfer, copyElem, hs, hd, if_true, dspRead, dspWrite, decide_eq_true_eq]
  split
  · -- a missing index aborts both sides; with all four, the halves of `hi ++ lo` come back
    obtain _ | sl := dspIndex (p.1 &&& 0xFFFFFFFE)
    · rfl
    obtain _ | sh := dspIndex (p.1 ||| 1)
    · rfl
    obtain _ | dl := dspIndex (p.2 &&& 0xFFFFFFFE)
    · rfl
    obtain _ | dh := dspIndex (p.2 ||| 1)
    · rfl
    simp only [bind, Except.bind, pure, Except.pure, Except.map, append_lo, append_hi]
  · cases dspIndex p.1 <;> cases dspIndex p.2 <;> rfl

private theorem foldlM_dsp (c : DmaChannel) (hs : c.srcSpace = 0) (hd : c.dstSpace = 0) (l : List (U32 × U32)) :
    ∀ w : World M E, l.foldlM (xferAt c) w =
      (l.foldlM (copyElem (decide (c.dwordMode ≠ 0))) w.mem).map (fun m => { w with mem := m }) := by
  induction l with
  | nil => intro w; rfl
  | cons p l ih =>
    intro w
    rw [List.foldlM_cons, List.foldlM_cons, xferAt_dsp c hs hd]
    cases copyElem (decide (c.dwordMode ≠ 0)) w.mem p with
    | error e => rfl
    | ok m => simp only [Except.map, bind, Except.bind]; rw [ih]; rfl

/-- **DSP→DSP: the final memory is the in-order fold of element copies over the documented
sequence** (so overlapping ranges behave like a sequential copy), nothing else in the world
changes, and the interrupt is raised once. -/
theorem dma_memory (d : Dma) (w : World M E) (ch : U16) (h : ch.toNat < 8)
    (hs : d.channels[ch.toNat].srcSpace = 0) (hd : d.channels[ch.toNat].dstSpace = 0) :
    (d.doDma w ch).map (fun r => r.2) =
      ((spec d.channels[ch.toNat]).foldlM (copyElem (decide (d.channels[ch.toNat].dwordMode ≠ 0))) w.mem).map
        (fun m => ({ w with mem := m }, 1)) := by
  rw [dma_run_eq_fold d w ch h]
  generalize d.channels[ch.toNat] = c at hs hd ⊢
  rw [foldlM_dsp { c with ahbmChannel := w.ahbm.getChannelForDma ch.toNat } hs hd]
  cases (spec c).foldlM (copyElem (decide (c.dwordMode ≠ 0))) w.mem <;> rfl

/-- Array indices written by one element copy. -/
def writtenBy (dword : Bool) (p : U32 × U32) : List (Option U32) :=
  if dword then [dspIndex (p.2 &&& 0xFFFFFFFE), dspIndex (p.2 ||| 1)] else [dspIndex p.2]

omit [ExtMem E] in
/-- One element copy changes only its destination indices. -/
theorem copyElem_frame (dword : Bool) (m m' : M) (p : U32 × U32) (h : copyElem dword m p = .ok m')
    (a : U32) (ha : some a ∉ writtenBy dword p) : DspMem.read m' a = DspMem.read m a := by
  have other : ∀ (m : M) (d : U32) (v : U16), some d ∈ writtenBy dword p →
      DspMem.read (DspMem.write m d v) a = DspMem.read m a :=
    fun m d v hd => DspMem.read_write_other _ _ _ _ fun e => ha (e ▸ hd)
  unfold copyElem at h
  cases dword with
  | false =>
    simp only [Bool.false_eq_true, if_false] at h
    split at h
    · rename_i h2
      cases h
      exact other _ _ _ (by simp [writtenBy, ← h2])
    · cases h
  | true =>
    simp only [if_true] at h
    split at h
    · rename_i h3 h4
      cases h
      rw [other _ _ _ (by simp [writtenBy, ← h4]), other _ _ _ (by simp [writtenBy, ← h3])]
    · cases h

omit [ExtMem E] in
/-- **Frame: no other memory changes.**  After the fold of element copies every array index that is
not a destination index of some element of the sequence holds its old value. -/
theorem dma_memory_frame (dword : Bool) (l : List (U32 × U32)) : ∀ (m m' : M),
    l.foldlM (copyElem dword) m = .ok m' →
    ∀ a : U32, (∀ p ∈ l, some a ∉ writtenBy dword p) → DspMem.read m' a = DspMem.read m a := by
  induction l with
  | nil => intro m m' h a _; injection h with h; rw [h]
  | cons p l ih =>
    intro m m' h a ha
    obtain ⟨m1, h1, h⟩ := Except.bind_eq_ok.mp h
    rw [ih m1 m' h a (fun q hq => ha q (List.mem_cons_of_mem _ hq)),
      copyElem_frame dword m m1 p h1 a (ha p (List.mem_cons_self ..))]
end

/-! ## the documented example of `dma.md`, and non-vacuity -/

/-- The configuration of the worked example in `src/dma.md`. -/
def docExample : DmaChannel :=
  { size0 := 3, size1 := 5, size2 := 2, srcStep0 := 2, srcStep1 := 1, srcStep2 := 7,
    dstStep0 := 1, dstStep1 := 1, dstStep2 := 1 }

/-- `spec` reproduces the address list printed in `dma.md`. -/
theorem spec_docExample :
    (spec docExample).map (·.1.toNat) =
      [0, 2, 4, 5, 7, 9, 10, 12, 14, 15, 17, 19, 20, 22, 24,
       31, 33, 35, 36, 38, 40, 41, 43, 45, 46, 48, 50, 51, 53, 55] := by decide +kernel

example : docExample.ticksBound = 30 := by decide +kernel
example : trace 30 docExample.start = spec docExample := (dma_trace docExample 30 (by decide +kernel)).1
/-- zero sizes count as one; double-word mode counts dimension 0 by two (`size0 = 5` → 3 elements). -/
example : (spec { size0 := 0, size1 := 0, size2 := 0 }).length = 1 ∧
    (spec { size0 := 5, size1 := 2, dwordMode := 1 }).length = 6 := by decide +kernel
/-- steps are unsigned: a step of 0xFFFF moves the cursor *up* by 65535. -/
example : (spec { size0 := 2, srcStep0 := 0xFFFF, addrSrcLow := 1 }).map (·.1.toNat) = [1, 0x10000] := by decide +kernel
/-- the closed form at the two largest double-word sizes: `size0 = 0xFFFF` is 0x8000 elements per
dimension-0 stride, `size0 = 0xFFFE` is 0x7FFF. -/
example : ({ dwordMode := 1, size0 := 0xFFFF } : DmaChannel).ticksBound = 0x8000 ∧
    ({ dwordMode := 1, size0 := 0xFFFE } : DmaChannel).ticksBound = 0x7FFF ∧
    ({ dwordMode := 1, size0 := 0xFFFF, size1 := 3, size2 := 2 } : DmaChannel).ticksBound = 0x30000 := by decide +kernel
/-- the last tick of such a stride, repaired code: 0xFFFE + 2 = 0x10000 ≥ 0xFFFF ends the stride
(and here the transfer) … -/
example : (advance { dwordMode := 1, size0 := 0xFFFF, counter0 := 0xFFFE, running := 1 }).counter0 = 0 ∧
    (advance { dwordMode := 1, size0 := 0xFFFF, counter0 := 0xFFFE, running := 1 }).running = 0 := by decide +kernel
/-- … where the upstream `u16` counter wrapped to 0 and kept running. -/
example : Excluded { dwordMode := 1, size0 := 0xFFFF } ∧
    (advanceUpstream { dwordMode := 1, size0 := 0xFFFF, counter0 := 0xFFFE, running := 1 }).counter0 = 0 ∧
    (advanceUpstream { dwordMode := 1, size0 := 0xFFFF, counter0 := 0xFFFE, running := 1 }).running = 1 := by
  decide +kernel
/-- off the excluded family the upstream and the repaired counter step agree, e.g. at the largest
terminating upstream size. -/
example : advanceUpstream { dwordMode := 1, size0 := 0xFFFE, counter0 := 0xFFFC, running := 1 } =
    advance { dwordMode := 1, size0 := 0xFFFE, counter0 := 0xFFFC, running := 1 } := by decide +kernel

/-! ## AHBM: unit-exact accesses and burst transparency -/
namespace AhbmChannel

private theorem and_not_mask (a m : U32) (h : a &&& m = 0) : a &&& ~~~m = a := by
  have : a &&& ~~~m = (a &&& ~~~m) ||| (a &&& m) := by rw [h]; simp
  rw [this, ← BitVec.and_or_distrib_left, BitVec.not_or_self, BitVec.and_allOnes]

private theorem and_mask (a : U32) (k : Nat) (hk : 2 ^ k - 1 < 2 ^ 32 := by decide) :
    (a &&& BitVec.ofNat 32 (2 ^ k - 1)).toNat = a.toNat % 2 ^ k := by
  rw [BitVec.toNat_and, BitVec.toNat_ofNat, Nat.mod_eq_of_lt hk, Nat.and_two_pow_sub_one_eq_mod]

private theorem even_and_one (a : U32) (h : a.toNat % 2 = 0) : a &&& 1#32 = 0#32 :=
  BitVec.eq_of_toNat_eq ((and_mask a 1).trans h)
private theorem aligned4_and_three (a : U32) (h : a.toNat % 4 = 0) : a &&& 3#32 = 0#32 :=
  BitVec.eq_of_toNat_eq ((and_mask a 2).trans h)
private theorem mask_even (a : U32) (h : a.toNat % 2 = 0) : a &&& 4294967294#32 = a :=
  and_not_mask a 1 (even_and_one a h)
private theorem mask_aligned4 (a : U32) (h : a.toNat % 4 = 0) : a &&& 4294967292#32 = a :=
  and_not_mask a 3 (aligned4_and_three a h)
private theorem and_ffff (v : U16) : (v.setWidth 32 : U32) &&& 65535#32 = v.setWidth 32 := by
  refine BitVec.eq_of_toNat_eq ((and_mask _ 16).trans (Nat.mod_eq_of_lt ?_))
  rw [BitVec.toNat_setWidth_of_le (by decide)]
  exact v.isLt

theorem writeInternal_single (c : AhbmChannel) (hb : c.burstSize = 0) (hq : c.burstQueue = []) (a v : U32) :
    c.writeInternal a v = ({ c with writeBurstStart := a }, (flushOne c.unitSize a v).2) := by
  simp [writeInternal, hq, getBurstSize, hb, flush]

theorem read32_single (rd : ExtRead) (c : AhbmChannel) (hb : c.burstSize = 0) (hq : c.burstQueue = []) (a : U32) :
    c.read32 rd a = (c, (fillOne rd c.unitSize a).1, (fillOne rd c.unitSize a).2.2) := by
  simp [read32, hq, getBurstSize, hb, fill]
  cases c; simp_all

/-- **A 16-bit unit at an even address, bursts off: `Write16` performs exactly one external access —
a 16-bit write of exactly that value at exactly that address.**  (The burst queue must be empty,
as it is after reset and after every complete burst.) -/
theorem aligned_unit_exact_write16 (c : AhbmChannel) (hu : c.unitSize = 1) (hb : c.burstSize = 0)
    (hq : c.burstQueue = []) (a : U32) (ha : a.toNat % 2 = 0) (v : U16) :
    c.write16 a v = ({ c with writeBurstStart := a }, [⟨.write, 16, a, v.setWidth 32⟩]) := by
  rw [write16, writeInternal_single c hb hq, hu]
  simp [flushOne, mask_even a ha, and_ffff]

/-- **A 32-bit unit at a 4-aligned address, bursts off: `Write32` performs exactly one external
access — a 32-bit write of exactly that value at exactly that address.** -/
theorem aligned_unit_exact_write32 (c : AhbmChannel) (hu : c.unitSize = 2) (hb : c.burstSize = 0)
    (hq : c.burstQueue = []) (a : U32) (ha : a.toNat % 4 = 0) (v : U32) :
    c.write32 a v = ({ c with writeBurstStart := a }, [⟨.write, 32, a, v⟩]) := by
  have h2 : a ≤ a + 1#32 ∧ a ≤ a + 2#32 := by bv_omega
  rw [write32, writeInternal_single c hb hq, hu]
  simp [flushOne, mask_aligned4 a ha, h2, even_and_one a (by omega)]

/-- **A 16-bit unit at an even address, bursts off: `Read16` performs exactly one external access —
a 16-bit read at exactly that address — returns exactly its value and leaves the channel as it was.** -/
theorem aligned_unit_exact_read16 (rd : ExtRead) (c : AhbmChannel) (hu : c.unitSize = 1) (hb : c.burstSize = 0)
    (hq : c.burstQueue = []) (a : U32) (ha : a.toNat % 2 = 0) :
    c.read16 rd a = (c, rd.read16 a, [⟨.read, 16, a, (rd.read16 a).setWidth 32⟩]) := by
  rw [read16, read32_single rd c hb hq, hu]
  simp [fillOne, mask_even a ha, even_and_one a ha]

/-- **A 32-bit unit at a 4-aligned address, bursts off: `Read32` performs exactly one external
access — a 32-bit read at exactly that address — and returns exactly its value.** -/
theorem aligned_unit_exact_read32 (rd : ExtRead) (c : AhbmChannel) (hu : c.unitSize = 2) (hb : c.burstSize = 0)
    (hq : c.burstQueue = []) (a : U32) (ha : a.toNat % 4 = 0) :
    c.read32 rd a = (c, rd.read32 a, [⟨.read, 32, a, rd.read32 a⟩]) := by
  rw [read32_single rd c hb hq, hu]
  simp [fillOne, mask_aligned4 a ha]

/-- Bytes per unit: what the AHBM advances its own cursor by inside a burst. -/
def unitBytes (u : U16) : U32 := if u = 0 then 1 else if u = 1 then 2 else if u = 2 then 4 else 0

/-- `vs.length` calls of `WriteInternal` at addresses `a, a+step, a+2·step, …`. -/
def writeSeq (c : AhbmChannel) (a step : U32) : List U32 → AhbmChannel × List ExtEvent
  | [] => (c, [])
  | v :: vs =>
    let r := c.writeInternal a v
    let r2 := writeSeq r.1 (a + step) step vs
    (r2.1, r.2 ++ r2.2)

private theorem ofNat_succ_mul (n : Nat) (s : U32) :
    BitVec.ofNat 32 (n + 1) * s = s + BitVec.ofNat 32 n * s := by
  rw [BitVec.ofNat_add, BitVec.add_mul, BitVec.one_mul, BitVec.add_comm]

private theorem flushOne_next (u : U16) (cur v : U32) : (flushOne u cur v).1 = cur + unitBytes u := by
  simp only [flushOne, unitBytes, apply_ite Prod.fst, ite_self, apply_ite (cur + ·), BitVec.ofNat_eq_ofNat,
    BitVec.add_zero]

private theorem flush_cons (u : U16) (a v : U32) (vs : List U32) :
    flush u a (v :: vs) = (flushOne u a v).2 ++ flush u (a + unitBytes u) vs := by
  simp only [flush]; rw [flushOne_next]

/-- The flush loop advances its own cursor by the unit size. -/
theorem flush_append (u : U16) (xs ys : List U32) : ∀ a : U32,
    flush u a (xs ++ ys) = flush u a xs ++ flush u (a + BitVec.ofNat 32 xs.length * unitBytes u) ys := by
  induction xs with
  | nil => intro a; simp [flush]
  | cons x xs ih =>
    intro a
    rw [List.cons_append, flush_cons, flush_cons, ih, List.append_assoc, List.length_cons, ofNat_succ_mul,
      BitVec.add_assoc]

private theorem getBurstSize_pos (c : AhbmChannel) : 0 < c.getBurstSize := by
  unfold getBurstSize; repeat' split
  all_goals omega

/-- Where the burst that a write at `a` joins (or opens) started. -/
def burstStart (c : AhbmChannel) (a : U32) : U32 := if c.burstQueue = [] then a else c.writeBurstStart

def pushed (c : AhbmChannel) (a v : U32) : AhbmChannel :=
  { c with burstQueue := c.burstQueue ++ [v], writeBurstStart := burstStart c a }

def flushed (c : AhbmChannel) (a : U32) : AhbmChannel :=
  { c with burstQueue := [], writeBurstStart := burstStart c a }

/-- `Ahbm::WriteInternal` in closed form: push; flush from the address of the first push of the
burst once the queue holds a full burst. -/
theorem writeInternal_eq (c : AhbmChannel) (a v : U32) :
    c.writeInternal a v =
      if c.burstQueue.length + 1 ≥ c.getBurstSize then
        (flushed c a, flush c.unitSize (if c.burstQueue = [] then a else c.writeBurstStart) (c.burstQueue ++ [v]))
      else (pushed c a v, []) := by
  unfold writeInternal pushed flushed burstStart
  cases hq : c.burstQueue with
  | nil =>
    simp only [List.isEmpty_nil, if_true, List.nil_append, List.length_cons, List.length_nil]
    rfl
  | cons x xs =>
    simp only [List.isEmpty_cons, Bool.false_eq_true, if_false, List.length_append, List.length_cons,
      List.length_nil, hq]
    rfl

/-- A write at `a` continues the burst in progress: less than a burst is queued, and `a` is where
the flush loop will put the next unit. -/
def Continues (c : AhbmChannel) (a : U32) : Prop :=
  c.burstQueue.length < c.getBurstSize ∧
  a = burstStart c a + BitVec.ofNat 32 c.burstQueue.length * unitBytes c.unitSize

private theorem continues_of_empty (c : AhbmChannel) (a : U32) (h : c.burstQueue = []) : Continues c a :=
  ⟨by rw [h]; exact getBurstSize_pos c, by simp [burstStart, h]⟩

private theorem burstStart_pushed (c : AhbmChannel) (a v a' : U32) : burstStart (pushed c a v) a' = burstStart c a := by
  simp [burstStart, pushed]

/-- Consecutive writes that end on a burst boundary: everything queued and written goes out, in
order, as one flush from the start of the burst in progress. -/
theorem writeSeq_flush (vs : List U32) : ∀ (c : AhbmChannel) (a : U32), Continues c a →
    (c.burstQueue.length + vs.length) % c.getBurstSize = 0 →
    (writeSeq c a (unitBytes c.unitSize) vs).2 = flush c.unitSize (burstStart c a) (c.burstQueue ++ vs) ∧
    (writeSeq c a (unitBytes c.unitSize) vs).1.burstQueue = [] := by
  induction vs with
  | nil =>
    intro c a ⟨hlt, _⟩ hm
    have : c.burstQueue = [] := List.eq_nil_of_length_eq_zero (by simpa [Nat.mod_eq_of_lt hlt] using hm)
    simp [writeSeq, flush, this]
  | cons v vs ih =>
    intro c a ⟨hlt, ha⟩ hm
    have hnext : a + unitBytes c.unitSize =
        burstStart c a + BitVec.ofNat 32 (c.burstQueue ++ [v]).length * unitBytes c.unitSize := by
      rw [List.length_append, List.length_singleton, ofNat_succ_mul, BitVec.add_comm _ (_ * _), ← BitVec.add_assoc, ← ha]
    rw [List.length_cons] at hm
    rw [List.append_cons]
    simp only [writeSeq, writeInternal_eq]
    by_cases hfull : c.burstQueue.length + 1 ≥ c.getBurstSize
    · -- this write completes the burst; the rest starts a new one right behind it
      have key : (writeSeq (flushed c a) (a + unitBytes c.unitSize) (unitBytes c.unitSize) vs).2 =
            flush c.unitSize (a + unitBytes c.unitSize) vs ∧ _ :=
        ih (flushed c a) _ (continues_of_empty _ _ rfl) (by
          have : c.burstQueue.length + (vs.length + 1) = c.getBurstSize + vs.length := by omega
          rwa [this, Nat.add_mod_left, ← Nat.zero_add vs.length] at hm)
      rw [if_pos hfull, flush_append c.unitSize (c.burstQueue ++ [v]) vs, ← hnext]
      exact ⟨congrArg _ key.1, key.2⟩
    · have key := ih (pushed c a v) (a + unitBytes c.unitSize)
        ⟨by show (c.burstQueue ++ [v]).length < c.getBurstSize; simp; omega, by rw [burstStart_pushed]; exact hnext⟩
        (by show ((c.burstQueue ++ [v]).length + _) % c.getBurstSize = 0; rw [← hm]; congr 1; simp; omega)
      rw [burstStart_pushed] at key
      rw [if_neg hfull]
      exact key

/-- **Write bursts are transparent.**  On a channel whose burst queue is empty, writing
`vs.length` units at consecutive addresses `a, a + unitBytes, …` with a burst length that divides
the number of units produces exactly the external accesses (same kinds, widths, addresses,
values, order) as the same writes with bursts off, and leaves the queue empty again. -/
theorem burst_transparent_write (c : AhbmChannel) (hq : c.burstQueue = []) (a : U32) (vs : List U32)
    (hdiv : vs.length % c.getBurstSize = 0) :
    (writeSeq c a (unitBytes c.unitSize) vs).2 =
      (writeSeq { c with burstSize := 0 } a (unitBytes c.unitSize) vs).2 ∧
    (writeSeq c a (unitBytes c.unitSize) vs).1.burstQueue = [] ∧
    (writeSeq { c with burstSize := 0 } a (unitBytes c.unitSize) vs).1.burstQueue = [] := by
  have h1 := writeSeq_flush vs c a (continues_of_empty c a hq) (by rw [hq]; simpa using hdiv)
  have h2 := writeSeq_flush vs { c with burstSize := 0 } a (continues_of_empty _ a hq) (Nat.mod_one _)
  exact ⟨h1.1.trans h2.1.symm, h1.2, h2.2⟩

/-- `n` calls of `Read32` at addresses `a, a+step, …`: final channel, returned values, events. -/
def readSeq (rd : ExtRead) (c : AhbmChannel) (a step : U32) : Nat → AhbmChannel × List U32 × List ExtEvent
  | 0 => (c, [], [])
  | n + 1 =>
    let r := c.read32 rd a
    let r2 := readSeq rd r.1 (a + step) step n
    (r2.1, r.2.1 :: r2.2.1, r.2.2 ++ r2.2.2)

private theorem fillOne_next (rd : ExtRead) (u : U16) (cur : U32) : (fillOne rd u cur).2.1 = cur + unitBytes u := by
  simp only [fillOne, unitBytes, apply_ite Prod.snd, apply_ite Prod.fst, apply_ite (cur + ·), BitVec.ofNat_eq_ofNat,
    BitVec.add_zero]

private theorem fill_succ (rd : ExtRead) (u : U16) (n : Nat) (a : U32) :
    fill rd u (n + 1) a =
      ((fillOne rd u a).1 :: (fill rd u n (a + unitBytes u)).1,
       (fillOne rd u a).2.2 ++ (fill rd u n (a + unitBytes u)).2) := by
  simp only [fill]; rw [fillOne_next]

private theorem fill_length (rd : ExtRead) (u : U16) (n : Nat) : ∀ a, (fill rd u n a).1.length = n := by
  induction n with
  | zero => intro a; rfl
  | succ n ih => intro a; rw [fill_succ]; simp [ih]

/-- The prefetch loop advances its own cursor by the unit size. -/
theorem fill_add (rd : ExtRead) (u : U16) (n m : Nat) : ∀ a,
    fill rd u (n + m) a =
      ((fill rd u n a).1 ++ (fill rd u m (a + BitVec.ofNat 32 n * unitBytes u)).1,
       (fill rd u n a).2 ++ (fill rd u m (a + BitVec.ofNat 32 n * unitBytes u)).2) := by
  induction n with
  | zero => intro a; simp [fill]
  | succ n ih =>
    intro a
    rw [show n + 1 + m = (n + m) + 1 from by omega, fill_succ, fill_succ, ih, ofNat_succ_mul,
      BitVec.add_assoc]
    simp [List.append_assoc]

theorem read32_empty (rd : ExtRead) (c : AhbmChannel) (hq : c.burstQueue = []) (a : U32) (l : Nat)
    (hl : c.getBurstSize = l + 1) :
    c.read32 rd a = ({ c with burstQueue := (fill rd c.unitSize l (a + unitBytes c.unitSize)).1 },
      (fillOne rd c.unitSize a).1, (fill rd c.unitSize (l + 1) a).2) := by
  simp [read32, hq, hl, fill_succ]

/-- The queue holds what the prefetch loop has fetched ahead for the reads from `a` on. -/
def Ahead (rd : ExtRead) (c : AhbmChannel) (a : U32) : Prop :=
  c.burstQueue = (fill rd c.unitSize c.burstQueue.length a).1

/-- Consecutive reads that end on a burst boundary: they return what the prefetch loop fetches from `a` on, fetch what
is not queued yet, in whole bursts, and leave the queue empty. -/
theorem readSeq_ahead (rd : ExtRead) (n : Nat) : ∀ (c : AhbmChannel) (a : U32), Ahead rd c a →
    c.burstQueue.length ≤ n → (n - c.burstQueue.length) % c.getBurstSize = 0 →
    readSeq rd c a (unitBytes c.unitSize) n =
      ({ c with burstQueue := [] }, (fill rd c.unitSize n a).1,
       (fill rd c.unitSize (n - c.burstQueue.length)
         (a + BitVec.ofNat 32 c.burstQueue.length * unitBytes c.unitSize)).2) := by
  induction n with
  | zero =>
    intro c a _ hl _
    obtain ⟨_, _, _, _, q, _⟩ := c
    cases List.eq_nil_of_length_eq_zero (Nat.le_zero.mp hl)
    rfl
  | succ n ih =>
    intro c a ha hl hm
    cases hq : c.burstQueue with
    | cons v q =>
      -- the head of the queue is returned; the tail is ahead of the next address
      rw [Ahead, hq, List.length_cons, fill_succ] at ha
      injection ha with hv hq'
      have hr : c.read32 rd a = ({ c with burstQueue := q }, v, []) := by simp [read32, hq]
      rw [hq, List.length_cons] at hl hm
      rw [Nat.add_sub_add_right] at hm
      simp only [readSeq, hr]
      rw [ih { c with burstQueue := q } _ hq' (Nat.le_of_succ_le_succ hl) hm]
      simp only [fill_succ, hv, List.length_cons, ofNat_succ_mul, BitVec.add_assoc, Nat.add_sub_add_right,
        List.nil_append]
    | nil =>
      -- a burst of `l + 1` is fetched, its first unit returned, the other `l` are ahead of the next address
      obtain ⟨l, hB⟩ : ∃ l, c.getBurstSize = l + 1 := Nat.exists_eq_add_one.mpr (getBurstSize_pos c)
      rw [hq, List.length_nil, Nat.sub_zero, hB] at hm
      have hle : l ≤ n := Nat.le_of_succ_le_succ (Nat.le_of_dvd (Nat.succ_pos n) (Nat.dvd_of_mod_eq_zero hm))
      rw [Nat.mod_eq_sub_mod (Nat.add_le_add_right hle 1), Nat.add_sub_add_right, ← hB] at hm
      have hlen := fill_length rd c.unitSize l (a + unitBytes c.unitSize)
      have hadd := fill_add rd c.unitSize l (n - l) (a + unitBytes c.unitSize)
      rw [Nat.add_sub_cancel' hle] at hadd
      simp only [readSeq, read32_empty rd c hq a l hB]
      rw [ih { c with burstQueue := (fill rd c.unitSize l (a + unitBytes c.unitSize)).1 } (a + unitBytes c.unitSize)
        (by simp only [Ahead, hlen]) (Nat.le_trans (Nat.le_of_eq hlen) hle) (by simp only [hlen]; exact hm)]
      simp only [hlen, fill_succ, List.length_nil, Nat.sub_zero, BitVec.zero_mul, BitVec.add_zero, hadd,
        List.append_assoc]

/-- **Read bursts are transparent.**  On a channel whose burst queue is empty, `n` reads of one
unit each at consecutive addresses `a, a + unitBytes, …`, with a burst length dividing `n`, return
the same values and perform the same external accesses in the same order as the same reads with
bursts off (the external memory being the same function throughout), and leave the channel as it
was. -/
theorem burst_transparent_read (rd : ExtRead) (c : AhbmChannel) (hq : c.burstQueue = []) (a : U32) (n : Nat)
    (hdiv : n % c.getBurstSize = 0) :
    (readSeq rd c a (unitBytes c.unitSize) n).2 =
      (readSeq rd { c with burstSize := 0 } a (unitBytes c.unitSize) n).2 ∧
    (readSeq rd c a (unitBytes c.unitSize) n).1 = c := by
  have h1 := readSeq_ahead rd n c a (by rw [Ahead, hq]; rfl) (by simp [hq]) (by simpa [hq] using hdiv)
  have h2 := readSeq_ahead rd n { c with burstSize := 0 } a (by rw [Ahead, hq]; rfl) (by simp [hq]) (Nat.mod_one _)
  rw [h1, h2]
  exact ⟨rfl, by simp only [← hq]⟩

/-! ## the excluded points of burst transparency, as proved examples (**findings**) -/

/-- A burst that is not completed is never written: three 16-bit writes with burst ×4 produce no
external access at all and stay in the queue — if the transfer ends here the data is lost, and
the next transfer on this channel starts with a non-empty queue. -/
theorem burst_tail_lost :
    writeSeq { unitSize := 1, burstSize := 1 } 0x100 2 [0x11, 0x22, 0x33] =
      ({ unitSize := 1, burstSize := 1, burstQueue := [0x11, 0x22, 0x33], writeBurstStart := 0x100 }, []) := by
  decide +kernel

/-- A read burst prefetches a whole burst; after three reads one prefetched unit is left in the
queue, and the next read — at any address — returns that stale unit without touching memory. -/
theorem burst_tail_stale :
    let rd : ExtRead := ⟨fun _ => 0, fun a => a.setWidth 16, fun a => a⟩
    let c : AhbmChannel := { unitSize := 1, burstSize := 1 }
    (readSeq rd c 0x100 2 3).1.burstQueue = [0x106] ∧
    ((readSeq rd c 0x100 2 3).1.read32 rd 0x5000).2 = (0x106, []) := by
  decide +kernel

/-- External→external through one AHBM channel with bursts on: the read prefetch and the write
buffer are the same queue.  The first element's write finds the queue non-empty, so
`write_burst_start` is *not* set to the destination: the prefetched words are written from the
stale start address (0 after reset), not to 0x2000. -/
theorem ext_to_ext_burst_misplaced :
    let rd : ExtRead := ⟨fun _ => 0, fun a => a.setWidth 16, fun a => a⟩
    let c : AhbmChannel := { unitSize := 1, burstSize := 1 }
    let r := c.read16 rd 0x100
    (r.1.write16 0x2000 r.2.1).2 =
      [⟨.write, 16, 0, 0x102⟩, ⟨.write, 16, 2, 0x104⟩, ⟨.write, 16, 4, 0x106⟩, ⟨.write, 16, 6, 0x100⟩] := by
  decide +kernel

/-! ## non-vacuity -/
example : ({ unitSize := 1 } : AhbmChannel).burstQueue = [] ∧ (0x100 : U32).toNat % 2 = 0 := by decide +kernel
example : ([1, 2, 3, 4, 5, 6, 7, 8] : List U32).length % ({ unitSize := 2, burstSize := 1 } : AhbmChannel).getBurstSize = 0 := by
  decide +kernel
/-- burst ×4, 32-bit units, eight writes: the accesses are those of eight unburst writes. -/
example : (writeSeq { unitSize := 2, burstSize := 1 } 0x100 4 [1, 2, 3, 4, 5, 6, 7, 8]).2 =
    (writeSeq { unitSize := 2 } 0x100 4 [1, 2, 3, 4, 5, 6, 7, 8]).2 :=
  (burst_transparent_write { unitSize := 2, burstSize := 1 } rfl 0x100 [1, 2, 3, 4, 5, 6, 7, 8] (by decide)).1
/-- the hwtested odd-address behaviour: a 16-bit unit at an odd address writes one byte. -/
example : (({ unitSize := 1 } : AhbmChannel).write16 0x101 0xABCD).2 = [⟨.write, 8, 0x101, 0xAB⟩] := by decide +kernel

end AhbmChannel
end Teakra
