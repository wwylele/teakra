import Proofs.Cycle
/-!
# What the two bookkeeping blocks of the loop body do, case by case

`repBook`, `loopBook` (`Proofs/Cycle.lean`) are the single-instruction-repeat and block-repeat blocks
of `Run` as functions of the register file; `cycle_one` / `cycle_two` there give the loop body in
terms of them.  Here: their effect on `pc, rep, repc, lp, bcn, bkrep`.  The `book_*`
theorems are C09's statements about the bookkeeping (`Proofs/C09.lean` lists them); the self-branch of
C06Sys uses the cases in which nothing happens (`book_loop_off`, `book_loop_inside`).
-/
namespace Teakra
open Exec ExecLemmas Interp Sys

/-- `pc | (prpage << 18)`: `Sys.fetchAddress` with `prpage` and `pc` as arguments, so that C09 can state the
fetch addresses of a loop (`pc + 1`, `start`, …) without a register file. -/
def fAddr (pg : U16) (pc : U32) : U32 := pc ||| ((pg.setWidth 32 : U32) <<< 18)

theorem fetchAddress_eq (r : Regs) : fetchAddress r = fAddr r.prpage r.pc := rfl

/-! In all lemmas `r` is the register file *before the fetch* where the statement is about `repBook`
(`bumpPc` is the fetch of a one-word instruction) and *after the fetch and `repBook`* where it is
about `loopBook`. -/

/-- `rep` running, `repc ≠ 0`, one-word instruction: `pc` is back on the instruction, `repc` is
decremented, `rep` stays set. -/
theorem book_rep_more (r : Regs) (hrep : r.rep = true) (hn : r.repc ≠ 0) :
    repBook (bumpPc r) = { r with repc := r.repc - 1 } := by
  have h0 : (r.repc == 0) = false := beq_eq_false_iff_ne.2 hn
  have hpc : (bumpPc r).pc - 1 = r.pc := BitVec.add_sub_cancel r.pc 1
  unfold repBook
  rw [bumpPc_rep, hrep, if_pos rfl]
  show (if (r.repc == 0) = true then _ else _) = _
  rw [h0, if_neg Bool.false_ne_true, hpc]
  rfl

/-- `rep` running, `repc = 0`: `pc` has advanced past the instruction, `rep` is cleared. -/
theorem book_rep_last (r : Regs) (hrep : r.rep = true) (hz : r.repc = 0) :
    repBook (bumpPc r) = { r with pc := r.pc + 1, rep := false } := by
  have h0 : (r.repc == 0) = true := beq_iff_eq.2 hz
  unfold repBook
  rw [bumpPc_rep, hrep, if_pos rfl]
  show (if (r.repc == 0) = true then _ else _) = _
  rw [h0, if_pos rfl]
  rfl

/-- No `rep` running: nothing happens. -/
theorem book_rep_off (r : Regs) (hrep : r.rep = false) : repBook r = r := by
  unfold repBook
  rw [hrep, if_neg Bool.false_ne_true]

/-- Not inside a block repeat: nothing happens. -/
theorem book_loop_off (r : Regs) (hlp : r.lp = 0) : loopBook r = .ok r := by
  unfold loopBook
  rw [hlp]; rfl

theorem loopBook_in (r : Regs) (i : Nat) (hlp : r.lp ≠ 0) (hb : r.bcn.toNat = i + 1) (hi : i < 4) :
    loopBook r =
      if r.bkrep[i].end_ + 1 = r.pc then
        if r.bkrep[i].lc = 0 then .ok { r with bcn := r.bcn - 1, lp := Alu.b2u (r.bcn - 1 != 0) }
        else .ok { r with bkrep := r.bkrep.set i { r.bkrep[i] with lc := r.bkrep[i].lc - 1 }, pc := r.bkrep[i].start }
      else .ok r := by
  have h1 : (r.lp != 0) = true := bne_iff_ne.2 hlp
  have hi' : r.bcn.toNat - 1 = i := by omega
  have h2 : (r.bcn == 0 || decide (r.bcn.toNat - 1 ≥ 4)) = false := by
    have : r.bcn ≠ 0 := by intro h; rw [h] at hb; simp at hb
    rw [Bool.or_eq_false_iff]
    refine ⟨beq_eq_false_iff_ne.2 this, ?_⟩
    rw [decide_eq_false_iff_not]; omega
  unfold loopBook
  rw [h1, if_pos rfl]
  dsimp only
  rw [h2, if_neg Bool.false_ne_true, hi', toArray_getD _ _ hi, dif_pos hi]
  simp only [beq_iff_eq]

/-- Jump back: `pc` (after the fetch) is `end + 1` of the innermost frame and its counter is not
0: the counter is decremented and `pc := start`; nothing else changes. -/
theorem book_loop_back (r : Regs) (i : Nat) (hlp : r.lp ≠ 0) (hb : r.bcn.toNat = i + 1) (hi : i < 4)
    (hend : r.bkrep[i].end_ + 1 = r.pc) (hlc : r.bkrep[i].lc ≠ 0) :
    loopBook r = .ok { r with bkrep := r.bkrep.set i { r.bkrep[i] with lc := r.bkrep[i].lc - 1 },
                              pc := r.bkrep[i].start } := by
  rw [loopBook_in r i hlp hb hi, if_pos hend, if_neg hlc]

/-- Exit: `pc` is `end + 1` of the innermost frame and its counter is 0: `bcn` is decremented,
`lp` becomes `bcn - 1 ≠ 0`, `pc` falls through; the frames are untouched. -/
theorem book_loop_exit (r : Regs) (i : Nat) (hlp : r.lp ≠ 0) (hb : r.bcn.toNat = i + 1) (hi : i < 4)
    (hend : r.bkrep[i].end_ + 1 = r.pc) (hlc : r.bkrep[i].lc = 0) :
    loopBook r = .ok { r with bcn := r.bcn - 1, lp := Alu.b2u (r.bcn - 1 != 0) } := by
  rw [loopBook_in r i hlp hb hi, if_pos hend, if_pos hlc]

/-- Not at the end of the innermost block: nothing happens. -/
theorem book_loop_inside (r : Regs) (i : Nat) (hlp : r.lp ≠ 0) (hb : r.bcn.toNat = i + 1) (hi : i < 4)
    (hend : r.bkrep[i].end_ + 1 ≠ r.pc) : loopBook r = .ok r := by
  rw [loopBook_in r i hlp hb hi, if_neg hend]

/-- `lp` set with `bcn = 0` or `bcn > 4`: the C++ indexes `bkrep_stack[bcn - 1]` outside its four
entries; the model stops with `oob`. -/
theorem book_bcn_range (r : Regs) (hlp : r.lp ≠ 0) (hb : r.bcn = 0 ∨ 4 < r.bcn.toNat) :
    loopBook r = .error (.abort .oob) := by
  have h1 : (r.lp != 0) = true := bne_iff_ne.2 hlp
  have h2 : (r.bcn == 0 || decide (r.bcn.toNat - 1 ≥ 4)) = true := by
    rcases hb with hb | hb
    · simp [hb]
    · simp; right; omega
  unfold loopBook
  rw [h1, if_pos rfl]
  dsimp only
  rw [h2, if_pos rfl]

/-- … and so does the whole loop body (whatever instruction was fetched, provided the fetch itself
succeeds). -/
theorem cycle_bcn_range (c : Core) (x : (Option InstrPat × U16 × U16) × Core)
    (hf : fetch.run (latched c) = .ok x) (hlp : x.2.regs.lp ≠ 0)
    (hb : x.2.regs.bcn = 0 ∨ 4 < x.2.regs.bcn.toNat) :
    cycle.run c = .error (.abort .oob) := by
  -- `repBook` touches `rep`, `repc`, `pc` only
  have hr : (repBook x.2.regs).lp = x.2.regs.lp ∧ (repBook x.2.regs).bcn = x.2.regs.bcn := by
    unfold repBook
    split
    · split <;> exact ⟨rfl, rfl⟩
    · exact ⟨rfl, rfl⟩
  rw [cycle_run, hf, except_ok_bind, booked, book_bcn_range _ (hr.1 ▸ hlp) (hr.2 ▸ hb)]

end Teakra
