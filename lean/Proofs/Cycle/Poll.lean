import Proofs.Cycle
/-!
# The interrupt block at the end of the loop body (`interruptCheck`)

`interruptCheck_eq_decision`: the block is a pure decision on the register file (`entryDecision`:
nothing / line `i` / vectored) followed by the entry sequence of that decision (`enterLine`,
`enterVectored`).  With `cycle_entry_after_exec` this is the last step of the characterisation of
`cycle` (`cycle_spec`).
-/
namespace Teakra
open Exec ExecLemmas Interp Sys

/-- Line `i` is unmasked and requested: `regs.im[i] && regs.ip[i]`, with the model's `getD`
indexing. -/
def lineReady (r : Regs) (i : Nat) : Bool :=
  r.im.toArray.getD i 0 != 0 && r.ip.toArray.getD i 0 != 0

/-- The vectored interrupt is unmasked and requested: `regs.imv && regs.ipv`. -/
def vecReady (r : Regs) : Bool := r.imv != 0 && r.ipv != 0

/-- The least line `i < 3` with `im[i] ≠ 0 ∧ ip[i] ≠ 0`. -/
def deliverLine (r : Regs) : Option (Fin 3) :=
  if lineReady r 0 then some 0 else if lineReady r 1 then some 1 else if lineReady r 2 then some 2
  else none

theorem forall_fin3 (P : Fin 3 → Prop) : (∀ j, P j) ↔ P 0 ∧ P 1 ∧ P 2 := by
  simp [Fin.forall_fin_succ]

/- Both characterisations: spell the quantifier out, name the three tests, and the rest is a truth
table. -/
theorem deliverLine_eq_some (r : Regs) (i : Fin 3) :
    deliverLine r = some i ↔ (lineReady r i = true ∧ ∀ j : Fin 3, j < i → lineReady r j = false) := by
  unfold deliverLine
  rw [forall_fin3]
  have hi : i = 0 ∨ i = 1 ∨ i = 2 := by omega
  rcases hi with rfl | rfl | rfl
  all_goals
    simp only [Fin.val_zero, Fin.val_one, Fin.val_two]
    generalize lineReady r 0 = a, lineReady r 1 = b, lineReady r 2 = c
    revert a b c
    decide

theorem deliverLine_eq_none (r : Regs) :
    deliverLine r = none ↔ ∀ j : Fin 3, lineReady r j = false := by
  unfold deliverLine
  rw [forall_fin3]
  simp only [Fin.val_zero, Fin.val_one, Fin.val_two]
  generalize lineReady r 0 = a, lineReady r 1 = b, lineReady r 2 = c
  revert a b c
  decide

/-- Entry into the handler of interrupt line `i` (the body of the `if (regs.im[i] && regs.ip[i])`
of `Interpreter::Run`). -/
def enterLine (i : Fin 3) : Exec Unit := do
  modifyRegs fun r => { r with ip := vset r.ip i 0, ie := 0 }
  pushPC
  modifyRegs fun r => { r with pc := BitVec.ofNat 32 (0x0006 + i.val * 8) }
  modify fun c => { c with idle := false }
  if (← getRegs).ic.toArray.getD i 0 != 0 then contextStore

/-- Entry into the vectored handler (the body of the `if (!interrupt_handled && regs.imv && regs.ipv)`). -/
def enterVectored : Exec Unit := do
  modifyRegs fun r => { r with ipv := 0, ie := 0 }
  pushPC
  let c ← get
  modifyRegs fun r => { r with pc := c.vaddr }
  modify fun c => { c with idle := false }
  if c.vctx then contextStore

theorem scan_step_no (c : Core) (i fuel : Nat) (h : lineReady c.regs i = false) :
    (interruptCheck.scan i (fuel + 1)).run c = (interruptCheck.scan (i + 1) fuel).run c := by
  unfold lineReady at h
  rw [interruptCheck.scan, run_getRegs_bind, h]
  simp -zeta only [Bool.false_eq_true, if_false]

theorem scan_zero (c : Core) (i : Nat) : (interruptCheck.scan i 0).run c = .ok (false, c) := by
  rw [interruptCheck.scan]; rfl

/-- `if b then x` followed by `y`, as `do` elaborates it: `y` is a join point called in both
branches. -/
theorem ite_then {α : Type} (b : Prop) [Decidable b] (x : Exec Unit) (y : Exec α) :
    (if b then x >>= fun _ => y else y) = (if b then x else pure ()) >>= fun _ => y := by
  split <;> rfl

theorem scan_step_yes (c : Core) (i : Fin 3) (fuel : Nat) (h : lineReady c.regs i = true) :
    (interruptCheck.scan i.val (fuel + 1)).run c = (do enterLine i; pure true : Exec Bool).run c := by
  rw [interruptCheck.scan, run_getRegs_bind]
  unfold lineReady at h; rw [h]; simp -zeta only [if_true]
  -- the same program up to the join point and the bracketing of `>>=`
  refine congrArg (StateT.run · c) ?_
  unfold enterLine
  simp only [ite_then, bind_assoc]

theorem scan_spec (c : Core) :
    (interruptCheck.scan 0 3).run c =
      match deliverLine c.regs with
      | some i => (do enterLine i; pure true : Exec Bool).run c
      | none => .ok (false, c) := by
  unfold deliverLine
  cases h0 : lineReady c.regs 0
  · rw [scan_step_no c 0 2 h0]
    cases h1 : lineReady c.regs 1
    · rw [scan_step_no c 1 1 h1]
      cases h2 : lineReady c.regs 2
      · rw [scan_step_no c 2 0 h2, scan_zero]; rfl
      · exact scan_step_yes c 2 0 h2
    · exact scan_step_yes c 1 1 h1
  · exact scan_step_yes c 0 2 h0

/-- **The interrupt block, completely.**  Nothing happens if `ie = 0` or a single-instruction
repeat is running; otherwise the least unmasked requested line is entered; otherwise, if the
vectored interrupt is unmasked and requested, the vectored handler is entered; otherwise nothing
happens. -/
theorem interruptCheck_spec (c : Core) :
    interruptCheck.run c =
      if c.regs.ie = 0 ∨ c.regs.rep = true then .ok ((), c)
      else match deliverLine c.regs with
        | some i => (enterLine i).run c
        | none => if vecReady c.regs = true then enterVectored.run c else .ok ((), c) := by
  unfold interruptCheck
  rw [run_getRegs_bind]
  by_cases hg : c.regs.ie = 0 ∨ c.regs.rep = true
  · have hg' : (c.regs.ie != 0 && !c.regs.rep) = false := by
      rcases hg with h | h <;> simp [h]
    rw [hg', if_pos hg]
    simp -zeta only [Bool.false_eq_true, if_false, run_pure]
  · have hg' : (c.regs.ie != 0 && !c.regs.rep) = true := by
      simp only [not_or] at hg
      rw [bne_iff_ne.mpr hg.1, Bool.true_and]
      simpa using hg.2
    rw [hg', if_neg hg]
    simp -zeta only [if_true]
    rw [run_bind, scan_spec]
    cases hd : deliverLine c.regs with
    | some i =>
      -- `handled = true`: the vectored test fails by evaluation
      simp -zeta only [run_bind]
      cases (enterLine i).run c with
      | error e => rfl
      | ok r => rfl
    | none =>
      simp -zeta only [except_ok_bind, run_bind, run_getRegs, Bool.not_false, Bool.true_and]
      exact run_ite _ enterVectored _ c

inductive Entry where
  | none
  | line (i : Fin 3)
  | vectored
  deriving DecidableEq, Repr

def entryDecision (r : Regs) : Entry :=
  if r.ie = 0 ∨ r.rep = true then .none
  else match deliverLine r with
    | some i => .line i
    | none => if vecReady r = true then .vectored else .none

def Entry.exec : Entry → Exec Unit
  | .none => pure ()
  | .line i => enterLine i
  | .vectored => enterVectored

/-- `interruptCheck_spec`, factored through the decision. -/
theorem interruptCheck_eq_decision (c : Core) :
    interruptCheck.run c = (entryDecision c.regs).exec.run c := by
  rw [interruptCheck_spec]
  unfold entryDecision
  split
  · rfl
  · cases deliverLine c.regs with
    | some i => rfl
    | none => simp only []; split <;> rfl

theorem not_guard_iff (r : Regs) : ¬(r.ie = 0 ∨ r.rep = true) ↔ r.ie ≠ 0 ∧ r.rep = false := by
  rw [not_or, Bool.not_eq_true]

theorem entryDecision_line (r : Regs) (i : Fin 3) :
    entryDecision r = .line i ↔ (r.ie ≠ 0 ∧ r.rep = false ∧ deliverLine r = some i) := by
  unfold entryDecision
  rw [← and_assoc, ← not_guard_iff]
  by_cases hg : r.ie = 0 ∨ r.rep = true
  · rw [if_pos hg]
    exact ⟨Entry.noConfusion, fun h => absurd hg h.1⟩
  · rw [if_neg hg, and_iff_right hg]
    cases deliverLine r with
    | some j => simp
    | none => dsimp only; split <;> simp

theorem entryDecision_vectored (r : Regs) :
    entryDecision r = .vectored ↔
      (r.ie ≠ 0 ∧ r.rep = false ∧ deliverLine r = none ∧ vecReady r = true) := by
  unfold entryDecision
  rw [← and_assoc, ← not_guard_iff]
  by_cases hg : r.ie = 0 ∨ r.rep = true
  · rw [if_pos hg]
    exact ⟨Entry.noConfusion, fun h => absurd hg h.1⟩
  · rw [if_neg hg, and_iff_right hg]
    cases deliverLine r with
    | some j => simp
    | none => dsimp only; split <;> simp [*]

/-- Something is entered exactly when `Sys.deliverable` (the exclusion used by the idle-skip
property C06) holds. -/
theorem entryDecision_none_iff (r : Regs) : entryDecision r = .none ↔ deliverable r = false := by
  unfold entryDecision deliverable deliverLine
  change _ ↔ (r.ie != 0 && !r.rep && (lineReady r 0 || lineReady r 1 || lineReady r 2 || vecReady r)) = false
  by_cases h1 : r.ie = 0
  · simp [h1]
  · cases h2 : r.rep
    · rw [if_neg (fun h => h.elim h1 Bool.false_ne_true), bne_iff_ne.2 h1]
      generalize lineReady r 0 = a, lineReady r 1 = b, lineReady r 2 = c, vecReady r = v
      revert a b c v
      decide
    · simp

theorem Sys.interruptCheck_noop (c : Core) (h : deliverable c.regs = false) :
    interruptCheck.run c = .ok ((), c) := by
  rw [interruptCheck_eq_decision, (entryDecision_none_iff c.regs).2 h]; rfl

/-- One loop iteration, with the interrupt block replaced by its decision. -/
theorem cycle_spec (c : Core) :
    cycle.run c =
      (execPhase.run (latched c) >>= fun r => (entryDecision r.2.regs).exec.run r.2) := by
  rw [cycle_entry_after_exec]
  exact congrArg (_ >>= ·) (funext fun r => interruptCheck_eq_decision r.2)

end Teakra
