import Proofs.Lemmas.Exec
import TeakraModel.Exec
/-!
# C08 — the context part of the register file, `ContextStore` / `ContextRestore`

Each of the two handlers is a `ShadowSwap` between two updates of a small part of the register file (`CtxPart`) that
`ShadowSwap` does not touch, so the updates move across the swap (`shadowSwap_ctxApply`) and the round trip of C08.lean
is the swap applied twice and a computation on `CtxPart`.  `contextStorePure` / `contextRestorePure` are the handlers
in that form (`contextStore_run`, `contextRestore_run`).
-/
namespace Teakra.Interp
open Teakra Exec ExecLemmas

/-- What `ContextStore` / `ContextRestore` read and write apart from the bank swap. -/
structure CtxPart where
  flm : U16
  fvl : U16
  fe : U16
  fc0 : U16
  fc1 : U16
  fv : U16
  fn : U16
  fm : U16
  fz : U16
  fr : U16
  sh_flm : U16
  sh_fvl : U16
  sh_fe : U16
  sh_fc0 : U16
  sh_fc1 : U16
  sh_fv : U16
  sh_fn : U16
  sh_fm : U16
  sh_fz : U16
  sh_fr : U16
  repc : U16
  repcs : U16
  a : Vector U64 2
  b : Vector U64 2
  a1s : U64
  b1s : U64
  crep : U16
  ccnta : U16

def getCtx (r : Regs) : CtxPart :=
  { flm := r.flm, fvl := r.fvl, fe := r.fe, fc0 := r.fc0, fc1 := r.fc1, fv := r.fv, fn := r.fn, fm := r.fm,
    fz := r.fz, fr := r.fr, sh_flm := r.sh_flm, sh_fvl := r.sh_fvl, sh_fe := r.sh_fe, sh_fc0 := r.sh_fc0,
    sh_fc1 := r.sh_fc1, sh_fv := r.sh_fv, sh_fn := r.sh_fn, sh_fm := r.sh_fm, sh_fz := r.sh_fz, sh_fr := r.sh_fr,
    repc := r.repc, repcs := r.repcs, a := r.a, b := r.b, a1s := r.a1s, b1s := r.b1s, crep := r.crep,
    ccnta := r.ccnta }

def setCtx (r : Regs) (n : CtxPart) : Regs :=
  { r with
    flm := n.flm, fvl := n.fvl, fe := n.fe, fc0 := n.fc0, fc1 := n.fc1, fv := n.fv, fn := n.fn, fm := n.fm,
    fz := n.fz, fr := n.fr, sh_flm := n.sh_flm, sh_fvl := n.sh_fvl, sh_fe := n.sh_fe, sh_fc0 := n.sh_fc0,
    sh_fc1 := n.sh_fc1, sh_fv := n.sh_fv, sh_fn := n.sh_fn, sh_fm := n.sh_fm, sh_fz := n.sh_fz, sh_fr := n.sh_fr,
    repc := n.repc, repcs := n.repcs, a := n.a, b := n.b, a1s := n.a1s, b1s := n.b1s, crep := n.crep,
    ccnta := n.ccnta }

def ctxApply (g : CtxPart → CtxPart) (r : Regs) : Regs := setCtx r (g (getCtx r))

theorem setCtx_getCtx (r : Regs) : setCtx r (getCtx r) = r := by cases r; rfl
theorem setCtx_setCtx (r : Regs) (n m : CtxPart) : setCtx (setCtx r n) m = setCtx r m := by cases r; rfl
theorem getCtx_setCtx (r : Regs) (n : CtxPart) : getCtx (setCtx r n) = n := by cases n; rfl

theorem ctxApply_ctxApply (g h : CtxPart → CtxPart) (r : Regs) :
    ctxApply g (ctxApply h r) = ctxApply (g ∘ h) r := by
  unfold ctxApply; rw [getCtx_setCtx, setCtx_setCtx]; rfl

theorem shadowSwap_comm (u : Regs → Regs) (har : ∀ r i, swapArPure (u r) i = u (swapArPure r i))
    (harp : ∀ r i, swapArpPure (u r) i = u (swapArpPure r i))
    (hssr : ∀ r, shadowSwapRegistersPure (u r) = u (shadowSwapRegistersPure r)) (r : Regs) :
    shadowSwapPure (u r) = u (shadowSwapPure r) := by
  unfold shadowSwapPure swapAllArArpPure
  rw [hssr, har, har, harp, harp, harp, harp]

theorem shadowSwap_setCtx (r : Regs) (n : CtxPart) :
    shadowSwapPure (setCtx r n) = setCtx (shadowSwapPure r) n :=
  shadowSwap_comm (setCtx · n) (fun r _ => by cases r; rfl) (fun r _ => by cases r; rfl)
    (fun r => by cases r; rfl) r

/-- `ShadowSwap` does not write the context part, since it commutes with overwriting it. -/
theorem getCtx_shadowSwap (r : Regs) : getCtx (shadowSwapPure r) = getCtx r := by
  rw [← getCtx_setCtx (shadowSwapPure r) (getCtx r), ← shadowSwap_setCtx, setCtx_getCtx]

theorem shadowSwap_ctxApply (g : CtxPart → CtxPart) (r : Regs) :
    shadowSwapPure (ctxApply g r) = ctxApply g (shadowSwapPure r) := by
  unfold ctxApply; rw [shadowSwap_setCtx, getCtx_shadowSwap]

/-- `ShadowStore`: flags → one-way shadows. -/
def saveFlagsCtx (n : CtxPart) : CtxPart :=
  { n with
    sh_flm := n.flm, sh_fvl := n.fvl, sh_fe := n.fe, sh_fc0 := n.fc0, sh_fc1 := n.fc1,
    sh_fv := n.fv, sh_fn := n.fn, sh_fm := n.fm, sh_fz := n.fz, sh_fr := n.fr }

/-- `ShadowRestore`: one-way shadows → flags. -/
def loadFlagsCtx (n : CtxPart) : CtxPart :=
  { n with
    flm := n.sh_flm, fvl := n.sh_fvl, fe := n.sh_fe, fc0 := n.sh_fc0, fc1 := n.sh_fc1,
    fv := n.sh_fv, fn := n.sh_fn, fm := n.sh_fm, fz := n.sh_fz, fr := n.sh_fr }

/-- The part of `ContextStore` after `ShadowSwap`. -/
def storeTail (n : CtxPart) : CtxPart :=
  let n : CtxPart := if n.crep == 0 then { n with repcs := n.repc } else n
  if n.ccnta == 0 then { n with a1s := n.a[1], b1s := n.b[1] }
  else
    let f := Alu.accFlags n.b[1]
    { n with b := n.b.set 1 n.a[1], a := n.a.set 1 n.b[1], fz := f.fz, fm := f.fm, fe := f.fe, fn := f.fn }

/-- The part of `ContextRestore` after `ShadowSwap`. -/
def restoreTail (n : CtxPart) : CtxPart :=
  let n : CtxPart := if n.crep == 0 then { n with repc := n.repcs } else n
  if n.ccnta == 0 then { n with a := n.a.set 1 n.a1s, b := n.b.set 1 n.b1s }
  else { n with a := n.a.set 1 n.b[1], b := n.b.set 1 n.a[1] }

def contextStorePure (r : Regs) : Regs :=
  ctxApply storeTail (shadowSwapPure (ctxApply saveFlagsCtx r))

def contextRestorePure (r : Regs) : Regs :=
  ctxApply restoreTail (shadowSwapPure (ctxApply loadFlagsCtx r))

private theorem ctxApply_saveFlags (r : Regs) : ctxApply saveFlagsCtx r =
    { r with
      sh_flm := r.flm, sh_fvl := r.fvl, sh_fe := r.fe, sh_fc0 := r.fc0, sh_fc1 := r.fc1,
      sh_fv := r.fv, sh_fn := r.fn, sh_fm := r.fm, sh_fz := r.fz, sh_fr := r.fr } := by cases r; rfl

private theorem ctxApply_loadFlags (r : Regs) : ctxApply loadFlagsCtx r =
    { r with
      flm := r.sh_flm, fvl := r.sh_fvl, fe := r.sh_fe, fc0 := r.sh_fc0, fc1 := r.sh_fc1,
      fv := r.sh_fv, fn := r.sh_fn, fm := r.sh_fm, fz := r.sh_fz, fr := r.sh_fr } := by cases r; rfl

theorem contextStore_run (c : Core) :
    contextStore.run c = .ok ((), { c with regs := contextStorePure c.regs }) := by
  unfold contextStore contextStorePure shadowStore shadowSwap setAccAndFlag setAccFlag setAcc accIndex
  simp only [run_bind, run_modifyRegs, run_getRegs, except_ok_bind, run_ite, ctxApply_saveFlags]
  generalize shadowSwapPure _ = r'
  unfold ctxApply storeTail
  by_cases h1 : r'.crep = 0 <;> by_cases h2 : r'.ccnta = 0 <;> simp_all [getCtx, setCtx]

theorem contextRestore_run (c : Core) :
    contextRestore.run c = .ok ((), { c with regs := contextRestorePure c.regs }) := by
  unfold contextRestore contextRestorePure shadowRestore shadowSwap
  simp only [run_bind, run_modifyRegs, run_getRegs, except_ok_bind, run_ite, ctxApply_loadFlags]
  generalize shadowSwapPure _ = r'
  unfold ctxApply restoreTail
  by_cases h1 : r'.crep = 0 <;> by_cases h2 : r'.ccnta = 0 <;> simp_all [getCtx, setCtx]

end Teakra.Interp
