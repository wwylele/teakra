import Proofs.C19Lock
import TeakraModel.Golden.LockTableUpstream
/-!
# C19, lock discipline of the pinned tree: the two data races, and the one-line repair

Theorems over the committed snapshot `Upstream.table` only (so this module is built once and stays valid when
`/repo` is repaired): the counterexamples to `race_free` and what holds after `SetDisableInterrupt` takes the
channel mutex.  "The pinned tree" is here the upstream tree, without the two repairs; the snapshot of the current
tree is `Golden.table` (`Proofs/C19Golden.lean`), and no theorem of this file is about it.
-/
namespace Teakra.Lock

/-! ## the counterexamples, on the pinned snapshot -/

/-- host: `Teakra::SendData` → `DataChannel::Send` reads `disable_interrupt` under the channel mutex;
DSP: MMIO `0x0D4` bit 8 → `DataChannel::SetDisableInterrupt` writes it under no lock. -/
def wDisableInterrupt : IAccess × IAccess :=
  (⟨n% "host", n% "Teakra::SendData", (n% "apbp_from_cpu", n% "DataChannel.Send"), (n% "apbp_from_cpu", n% "DataChannel.disable_interrupt"),
     false, [(n% "apbp_from_cpu", n% "DataChannel.mutex")], false⟩,
   ⟨n% "dsp", n% "cells[0x0D4] slot{8,1}.set", (n% "apbp_from_cpu", n% "DataChannel.SetDisableInterrupt"),
     (n% "apbp_from_cpu", n% "DataChannel.disable_interrupt"), true, [], false⟩)

/-- host: `Teakra::SendData` → handler → `ICU::Trigger` → `GetVector` reads `vector_low[irq]` under the ICU
mutex; DSP: MMIO `0x214+4i` (`Cell::RefCell`) writes it under no lock. -/
def wVectorLow : IAccess × IAccess :=
  (⟨n% "host", n% "Teakra::SendData", (n% "icu", n% "ICU.GetVector"), (n% "icu", n% "ICU.vector_low"), false, [(n% "icu", n% "ICU.mutex")], false⟩,
   ⟨n% "dsp", n% "cells[0x214 + i * 4]", (n% "mmio set", n% "cells[0x214 + i * 4]"), (n% "icu", n% "ICU.vector_low"),
     true, [], false⟩)

def wVectorHigh : IAccess × IAccess :=
  (⟨n% "host", n% "Teakra::SendData", (n% "icu", n% "ICU.GetVector"), (n% "icu", n% "ICU.vector_high"), false, [(n% "icu", n% "ICU.mutex")], false⟩,
   ⟨n% "dsp", n% "cells[0x212 + i * 4] slot{0,2}", (n% "mmio set", n% "cells[0x212 + i * 4] slot{0,2}"),
     (n% "icu", n% "ICU.vector_high"), true, [], false⟩)

def wVectorCtx : IAccess × IAccess :=
  (⟨n% "host", n% "Teakra::SendData", (n% "icu", n% "ICU.Trigger"), (n% "icu", n% "ICU.vector_context_switch"), false, [(n% "icu", n% "ICU.mutex")], false⟩,
   ⟨n% "dsp", n% "cells[0x212 + i * 4] slot{15,1}", (n% "mmio set", n% "cells[0x212 + i * 4] slot{15,1}"),
     (n% "icu", n% "ICU.vector_context_switch"), true, [], false⟩)

def isWitness (t : LockTable) (w : IAccess × IAccess) : Bool :=
  (iaccesses t).contains w.1 && (iaccesses t).contains w.2 && conflict w.1 w.2

/-- host: `Send` writes `data`; DSP: `Recv` (MMIO `0x0C2+4i`) reads it; both under the channel mutex. -/
def lockedPair : IAccess × IAccess :=
  (⟨n% "host", n% "Teakra::SendData", (n% "apbp_from_cpu", n% "DataChannel.Send"), (n% "apbp_from_cpu", n% "DataChannel.data"), true,
     [(n% "apbp_from_cpu", n% "DataChannel.mutex")], false⟩,
   ⟨n% "dsp", n% "cells[0x0C2 + i * 4].get", (n% "apbp_from_cpu", n% "DataChannel.Recv"), (n% "apbp_from_cpu", n% "DataChannel.data"), false,
     [(n% "apbp_from_cpu", n% "DataChannel.mutex")], false⟩)

/-- Over `Upstream.table` (despite the name, not `Golden.table`): the four witnesses, the list of racy members and
the presence of `lockedPair`, packed into one Boolean for one kernel evaluation (`golden_checks`);
`golden_checks'` unpacks it into the separate facts. -/
def goldenChecks : Bool :=
  [wDisableInterrupt, wVectorLow, wVectorHigh, wVectorCtx].all (isWitness Upstream.table) &&
  racyFields Upstream.table == [n% "DataChannel.disable_interrupt", n% "ICU.vector_context_switch", n% "ICU.vector_low", n% "ICU.vector_high"] &&
  (iaccesses Upstream.table).contains lockedPair.1 && (iaccesses Upstream.table).contains lockedPair.2

theorem golden_checks : goldenChecks = true := by
  simp only [goldenChecks, racyFields, findRaces, findRacesIn_eq]
  decide +kernel

private theorem witness_of {t : LockTable} (w : IAccess × IAccess) (h : isWitness t w = true) :
    w.1 ∈ iaccesses t ∧ w.2 ∈ iaccesses t ∧ Conflict w.1 w.2 := by
  simp only [isWitness, Bool.and_eq_true, List.contains_iff_mem, conflict_iff] at h
  exact ⟨h.1.1, h.1.2, h.2⟩

private theorem golden_checks' :
    isWitness Upstream.table wDisableInterrupt = true ∧ isWitness Upstream.table wVectorLow = true ∧
    isWitness Upstream.table wVectorHigh = true ∧ isWitness Upstream.table wVectorCtx = true ∧
    racyFields Upstream.table = [n% "DataChannel.disable_interrupt", n% "ICU.vector_context_switch", n% "ICU.vector_low", n% "ICU.vector_high"] ∧
    lockedPair.1 ∈ iaccesses Upstream.table ∧ lockedPair.2 ∈ iaccesses Upstream.table := by
  have h := golden_checks
  simp only [goldenChecks, List.all_cons, List.all_nil, Bool.and_true, Bool.and_eq_true, beq_iff_eq,
    List.contains_iff_mem] at h
  obtain ⟨⟨⟨⟨h1, h2, h3, h4⟩, h5⟩, h6⟩, h7⟩ := h
  exact ⟨h1, h2, h3, h4, h5, h6, h7⟩

/-- **Counterexample 1 (data race on `disable_interrupt`)**: on the pinned tree the host thread's
`Teakra::SendData` (`DataChannel::Send`, read under the channel mutex) and the DSP thread's MMIO write to
`0x0D4` (`DataChannel::SetDisableInterrupt`, write under no lock) race on `apbp_from_cpu`'s
`disable_interrupt`. -/
theorem race_witness_disable_interrupt :
    wDisableInterrupt.1 ∈ iaccesses Upstream.table ∧ wDisableInterrupt.2 ∈ iaccesses Upstream.table ∧
    Conflict wDisableInterrupt.1 wDisableInterrupt.2 := witness_of _ golden_checks'.1

/-- **Counterexample 2 (data race on the ICU vector tables)**, `vector_low`: host `Teakra::SendData` →
`icu.TriggerSingle(0xE)` → `GetVector` (read under the ICU mutex) against the DSP thread's MMIO write
`0x214+4i` through `Cell::RefCell` (no lock). -/
theorem race_witness_icu_vector_low :
    wVectorLow.1 ∈ iaccesses Upstream.table ∧ wVectorLow.2 ∈ iaccesses Upstream.table ∧
    Conflict wVectorLow.1 wVectorLow.2 := witness_of _ golden_checks'.2.1

/-- … `vector_high` (MMIO `0x212+4i` bits 0–1 through `BitFieldSlot::RefSlot`). -/
theorem race_witness_icu_vector_high :
    wVectorHigh.1 ∈ iaccesses Upstream.table ∧ wVectorHigh.2 ∈ iaccesses Upstream.table ∧
    Conflict wVectorHigh.1 wVectorHigh.2 := witness_of _ golden_checks'.2.2.1

/-- … `vector_context_switch` (MMIO `0x212+4i` bit 15), read directly in `ICU::Trigger`. -/
theorem race_witness_icu_vector_context_switch :
    wVectorCtx.1 ∈ iaccesses Upstream.table ∧ wVectorCtx.2 ∈ iaccesses Upstream.table ∧
    Conflict wVectorCtx.1 wVectorCtx.2 := witness_of _ golden_checks'.2.2.2.1

/-- The racy members of the pinned tree are exactly these four. -/
theorem racy_fields_golden :
    racyFields Upstream.table =
      [n% "DataChannel.disable_interrupt", n% "ICU.vector_context_switch", n% "ICU.vector_low", n% "ICU.vector_high"] :=
  golden_checks'.2.2.2.2.1

/-- **`race_free` fails on the pinned tree.** -/
theorem race_free_golden_false : ¬ RaceFree Upstream.table := by
  intro h
  obtain ⟨h1, h2, h3⟩ := race_witness_disable_interrupt
  exact h _ h1 _ h2 rfl (by simp) h3

/-! ## the one-line repair -/

/-- The table of the tree in which `DataChannel::SetDisableInterrupt` starts with
`std::lock_guard lock(mutex);`. -/
def patchSetDisableInterrupt (t : LockTable) : LockTable :=
  { t with
    accesses := t.accesses.map fun a =>
      if Nat.beq a.method (n% "DataChannel.SetDisableInterrupt") then { a with locks := [n% "DataChannel.mutex"] } else a
    acquires := t.acquires ++ [⟨n% "DataChannel.SetDisableInterrupt", n% "DataChannel.mutex", []⟩] }

theorem patched_checks :
    (tableChecks (patchSetDisableInterrupt Upstream.table) icuVectors &&
     racyFields (patchSetDisableInterrupt Upstream.table) == [n% "ICU.vector_context_switch", n% "ICU.vector_low", n% "ICU.vector_high"]) = true := by
  simp only [tableChecks, racyFields, findRaces, findRacesIn_eq]
  decide +kernel

/-- **After the repair** (taking the channel mutex in `SetDisableInterrupt`) the only racy members left are
the three ICU vector tables, and the lock order stays acyclic. -/
theorem race_free_after_patch :
    RaceFreeExcept (patchSetDisableInterrupt Upstream.table) icuVectors ∧
    Acyclic (lockEdges (patchSetDisableInterrupt Upstream.table)) := by
  have h := tableChecks_sound (Bool.and_eq_true_iff.1 patched_checks).1
  exact ⟨h.2.1, h.2.2.1⟩

/-! ## non-vacuity -/

/-- The analysed access sets are not empty: the host thread's send writes `data` under the channel mutex, and the
DSP thread's receive reads it under the same mutex (so the quantifiers of `RaceFreeExcept Upstream.table …` range
over real cross-thread pairs on the same member). -/
example :
    (⟨n% "host", n% "Teakra::SendData", (n% "apbp_from_cpu", n% "DataChannel.Send"), (n% "apbp_from_cpu", n% "DataChannel.data"), true,
      [(n% "apbp_from_cpu", n% "DataChannel.mutex")], false⟩ : IAccess) ∈ iaccesses Upstream.table ∧
    (⟨n% "dsp", n% "cells[0x0C2 + i * 4].get", (n% "apbp_from_cpu", n% "DataChannel.Recv"), (n% "apbp_from_cpu", n% "DataChannel.data"), false,
      [(n% "apbp_from_cpu", n% "DataChannel.mutex")], false⟩ : IAccess) ∈ iaccesses Upstream.table :=
  golden_checks'.2.2.2.2.2

/-- A cyclic graph is rejected by the order check (the check is not vacuous). -/
example : edgesForward (topo [((n% "a", n% "m"), (n% "b", n% "m")), ((n% "b", n% "m"), (n% "a", n% "m"))] 2 [(n% "a", n% "m"), (n% "b", n% "m")])
    [((n% "a", n% "m"), (n% "b", n% "m")), ((n% "b", n% "m"), (n% "a", n% "m"))] = false := by decide

end Teakra.Lock
