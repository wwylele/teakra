import Proofs.C19Conc
/-!
# C19, lost-wake-up freedom of "enable the mailbox interrupt, then poll" over `TeakraModel/Conc.lean`

`Proofs/C19Conc.lean` proves per-send facts ("a send whose critical section found the interrupt enabled calls the
handler before it returns").  What a **stale read of the interrupt-disable flag** breaks is a property of the
*protocol*: the receiver enables the channel's interrupt and then polls the ready bit once; the sender concurrently
sends a word.  Then in every interleaving the poll sees the word or the send raises the interrupt
(`enable_then_poll_never_loses_wakeup`).  This needs the flag read and the `ready`/`data` store of
`DataChannel::Send` to be **one** atomic action; `split_send_loses_wakeup` exhibits the lost wake-up for a variant
semantics (`stepSplit`, defined here, not part of the model) in which `Send` samples the flag in an earlier
critical section.

Two further parts are free of the scenario's scripts.  `signal_accounting`: for arbitrary scripts, the sends that
read `disable_interrupt = 0` are matched one for one by data-handler calls made or pending (`RaisedInv` here, with
`send_signals` of `C19Conc`).  `window`: from any state in which no call of some kind is still to come, a channel
property that only such calls can break holds for good; its instances `enabled_window_sends_raise` and
`ready_window_polls_true` are the two halves of the scenario, from any state on.

Ghost state used (added to `Global`, read by no transition): `polls s ch` — the values `IsDataReady` returned, in
order; `sentIrq s ch` — for each word of `sent s ch`, whether that send found the interrupt enabled.
-/
namespace Teakra.Conc
open Teakra

/-! ## the calls a step can put on a stack come from the host callbacks -/

def HostCallbacks.has (cb : HostCallbacks) (c : Call) : Prop := (∃ ch, c ∈ cb.data ch) ∨ c ∈ cb.sem

/-- Every not-yet-started call an action schedules is a call of a host callback (the other frames it schedules
are continuations of the call in progress). -/
theorem call_mem_pushed {cb : HostCallbacks} {g : Global} {f : Frame} {c : Call}
    (h : Frame.call c ∈ pushed cb g f) : cb.has c := by
  have trig : ∀ bits, Frame.call c ∉ trigFrames g.icu bits := by
    intro bits hc
    simp only [trigFrames, List.mem_append, List.mem_flatMap, List.mem_singleton, reduceCtorEq, or_false] at hc
    obtain ⟨e, -, he⟩ := hc
    cases e <;> simp [eventFrames] at he
  have handler : ∀ {s calls}, Frame.call c ∈ handlerFrames g calls s → c ∈ calls := by
    intro s calls h
    cases s
    · exact absurd h (trig _)
    · simpa [handlerFrames] using h
  unfold pushed at h
  split at h
  · split at h <;> simp at h
  · dsimp only at h; split at h <;> simp at h
  · dsimp only at h; split at h <;> simp at h
  · exact absurd h (trig _)
  · exact Or.inl ⟨_, handler h⟩
  · exact Or.inr (handler h)
  · cases h

/-! ## stable "no such call is still to come" properties -/

/-- No not-yet-started call on the stack `l` satisfies `P`. -/
def noCall (P : Call → Prop) (l : List Frame) : Prop := ∀ c, Frame.call c ∈ l → ¬ P c

theorem noCall_step {cb : HostCallbacks} {g g' : Global} {t : Tid} (P : Call → Prop)
    (hcb : ∀ c, cb.has c → ¬ P c) (h : step cb g t = some g') (t' : Tid)
    (hn : noCall P (g.stack t')) : noCall P (g'.stack t') := by
  obtain ⟨f, rest, hst, sp⟩ := step_cases h
  by_cases et : t' = t
  · subst et
    rw [sp.stack_self]
    intro c hc
    rcases List.mem_append.1 hc with hc | hc
    · exact hcb c (call_mem_pushed hc)
    · exact hn c (by rw [hst]; exact List.mem_cons_of_mem _ hc)
  · rw [sp.stack_other et]; exact hn

theorem noCall_map {P : Call → Prop} {l : List Call} (h : ∀ c ∈ l, ¬ P c) : noCall P (l.map Frame.call) := by
  intro c hc
  exact h c (by simpa using hc)

theorem irqSends_mono {cb : HostCallbacks} {g g' : Global} {t : Tid} (h : step cb g t = some g')
    (t' : Tid) (s : Side) : g.irqSends t' s ≤ g'.irqSends t' s := by
  obtain ⟨f, rest, -, sp⟩ := step_cases h
  by_cases e : t' = t
  · subst e; rw [sp.irqSends]; exact Nat.le_add_right _ _
  · rw [sp.irqSends_other e]; exact Nat.le_refl _

/-! ## view-level facts -/

/-- The call that performs `op` on channel `(s, ch)`.  The value at `.none` is arbitrary: every use has `op ≠ .none`. -/
def ChanOp.toCall (s : Side) (ch : Fin 3) : ChanOp → Call
  | .send v => .send s ch v
  | .recv => .recv s ch
  | .peek => .peek s ch
  | .setDisable v => .setDisable s ch v
  | .poll => .isReady s ch
  | .none => .getDisable s ch

/-- Only the call itself works on a channel. -/
theorem chanOpOf_eq {s : Side} {ch : Fin 3} {f : Frame} {op : ChanOp} (h : chanOpOf s ch f = op) (hop : op ≠ .none) :
    f = Frame.call (op.toCall s ch) := by
  unfold chanOpOf at h
  split at h <;> (try split at h) <;> subst h <;> (try exact absurd rfl hop)
  all_goals rename_i e; obtain ⟨rfl, rfl⟩ := e; rfl

theorem chanOpOf_ne {P : Call → Prop} {g : Global} {t : Tid} {f : Frame} {rest : List Frame} {s : Side} {ch : Fin 3}
    (hn : noCall P (g.stack t)) (hst : g.stack t = f :: rest) {op : ChanOp} (hop : op ≠ .none)
    (hP : P (op.toCall s ch)) : chanOpOf s ch f ≠ op := by
  intro e
  have := chanOpOf_eq e hop
  subst this
  exact hn _ (hst ▸ List.mem_cons_self) hP

/-- `ChanOp` without `peek`, and `chanOpOf` for it.  Nothing below uses `WOp`, `wopOf` or `wopOf_send`. -/
inductive WOp where
  | none | send (v : U16) | recv | setDisable (v : U16) | poll

def wopOf (s : Side) (ch : Fin 3) : Frame → WOp
  | .call (.send s' ch' v) => if s' = s ∧ ch' = ch then .send v else .none
  | .call (.recv s' ch') => if s' = s ∧ ch' = ch then .recv else .none
  | .call (.setDisable s' ch' v) => if s' = s ∧ ch' = ch then .setDisable v else .none
  | .call (.isReady s' ch') => if s' = s ∧ ch' = ch then .poll else .none
  | _ => .none

theorem wopOf_send {s : Side} {ch : Fin 3} {f : Frame} {w : U16} (h : wopOf s ch f = .send w) :
    f = Frame.call (Call.send s ch w) := by
  unfold wopOf at h
  split at h <;> first | cases h | skip
  all_goals split at h <;> cases h
  rename_i e; obtain ⟨rfl, rfl⟩ := e; rfl

/-- Without a receive, a channel that was ever sent to is ready. -/
def ChanView.readyOfSent (c : ChanView) : Prop := c.sent ≠ [] → c.chan.ready = true

theorem ChanView.readyOfSent_apply {c : ChanView} (h : c.readyOfSent) {op : ChanOp} (hop : op ≠ .recv) :
    (c.apply op).readyOfSent := by
  cases op with
  | recv => exact absurd rfl hop
  | send v => intro _; rfl
  | _ => exact h

theorem ChanView.sent_mono {c : ChanView} {v : U16} (h : v ∈ c.sent) (op : ChanOp) : v ∈ (c.apply op).sent := by
  cases op <;> simp [ChanView.apply, h]

def ChanView.sawReady (c : ChanView) : Prop := c.polls.getLast? = some true ∧ c.chan.ready = true

theorem ChanView.sawReady_apply {c : ChanView} (h : c.sawReady) {op : ChanOp} (hop : op ≠ .recv) :
    (c.apply op).sawReady := by
  cases op with
  | recv => exact absurd rfl hop
  | send v => exact ⟨h.1, rfl⟩
  | poll => exact ⟨by simp [ChanView.apply, h.2], h.2⟩
  | _ => exact h

def ChanView.allRaised (c : ChanView) : Prop := ∀ b ∈ c.sentIrq, b = true

theorem ChanView.allRaised_apply {c : ChanView} (h : c.allRaised) (hd : c.chan.disableInterrupt = 0) (op : ChanOp) :
    (c.apply op).allRaised := by
  cases op with
  | send v =>
    intro b hb
    simp only [ChanView.apply, List.mem_append, List.mem_singleton] at hb
    rcases hb with hb | hb
    · exact h b hb
    · rw [hb]; simp [hd]
  | _ => exact h

theorem ChanView.disableInterrupt_apply {c : ChanView} (hd : c.chan.disableInterrupt = 0) {op : ChanOp}
    (hop : ∀ w, op ≠ .setDisable w) : (c.apply op).chan.disableInterrupt = 0 := by
  cases op with
  | setDisable w => exact absurd rfl (hop w)
  | _ => exact hd

/-! ## the enable-then-poll scenario: invariant -/

/-- `c` writes the interrupt-disable flag of channel `(s, ch)`. -/
def isSD (s : Side) (ch : Fin 3) (c : Call) : Prop := ∃ w, c = Call.setDisable s ch w
def isRecv (s : Side) (ch : Fin 3) (c : Call) : Prop := c = Call.recv s ch

/-- The DSP thread's stack from the enabling write on: `SetDisableInterrupt(ch, 0)`, the calls `mid`, the poll,
the calls `post`. -/
def tailE (s : Side) (ch : Fin 3) (mid post : List Call) : List Frame :=
  Frame.call (Call.setDisable s ch 0) :: (mid.map Frame.call ++ Frame.call (Call.isReady s ch) :: post.map Frame.call)

/-- What holds once the poll has been made with the interrupt enabled: the last poll so far saw the word (and it
is still there), or every send on the channel so far found the interrupt enabled and the host's send is either
still to come or was one of them. -/
def Outcome (s : Side) (ch : Fin 3) (v : U16) (g : Global) : Prop :=
  (view g s ch).sawReady ∨
  ((view g s ch).allRaised ∧ (Frame.call (Call.send s ch v) ∈ g.stack Tid.host ∨ 1 ≤ g.irqSends Tid.host s))

structure WakeInv (s : Side) (ch : Fin 3) (v : U16) (mid post : List Call) (g : Global) : Prop where
  /-- the host thread never writes the flag -/
  host_sd : noCall (isSD s ch) (g.stack Tid.host)
  /-- nobody receives from the channel -/
  no_recv : ∀ t, noCall (isRecv s ch) (g.stack t)
  ready_of_sent : (view g s ch).readyOfSent
  /-- the host's send is still on its stack or has stored its word -/
  send_done : Frame.call (Call.send s ch v) ∈ g.stack Tid.host ∨ v ∈ g.sent s ch
  /-- phase 0: the enabling write is still to come; phase 1: the flag is 0 for good and the poll is still to
  come; phase 2: the poll has been made -/
  phase : tailE s ch mid post <:+ g.stack Tid.dsp ∨
          ((g.chan s ch).disableInterrupt = 0 ∧ noCall (isSD s ch) (g.stack Tid.dsp) ∧
            ((∃ Y, Frame.call (Call.isReady s ch) :: Y <:+ g.stack Tid.dsp) ∨ Outcome s ch v g))

/-- A frame inside a stack stays where it is, with everything below it, until it is the one executed. -/
private theorem frame_step {g g' : Global} {t t' : Tid} {f x : Frame} {rest ps Y : List Frame}
    (hst : g.stack t = f :: rest) (e : g'.stack = upd g.stack t (ps ++ rest)) (hx : x :: Y <:+ g.stack t') :
    x :: Y <:+ g'.stack t' ∨ (t' = t ∧ x = f ∧ Y = rest) := by
  by_cases et : t' = t
  · subst et
    rw [hst, List.suffix_cons_iff] at hx
    rw [e, upd_same]
    rcases hx with h | h
    · exact Or.inr ⟨rfl, List.cons.inj h⟩
    · exact Or.inl (h.trans (List.suffix_append _ _))
  · rw [e, upd_other et]; exact Or.inl hx

private theorem mem_stack_step {g g' : Global} {t t' : Tid} {f x : Frame} {rest ps : List Frame}
    (hst : g.stack t = f :: rest) (e : g'.stack = upd g.stack t (ps ++ rest)) (hx : x ∈ g.stack t') :
    (t' = t ∧ x = f) ∨ x ∈ g'.stack t' := by
  obtain ⟨X, Y, hx⟩ := List.append_of_mem hx
  rcases frame_step hst e ⟨X, hx.symm⟩ with h | ⟨et, ef, -⟩
  · exact Or.inr (h.subset List.mem_cons_self)
  · exact Or.inl ⟨et, ef⟩

theorem wakeInv_step {cb : HostCallbacks} {s : Side} {ch : Fin 3} {v : U16} {mid post : List Call}
    (cb_sd : ∀ c, cb.has c → ¬ isSD s ch c) (cb_recv : ∀ c, cb.has c → ¬ isRecv s ch c)
    (mid_sd : ∀ c ∈ mid, ¬ isSD s ch c) (post_sd : ∀ c ∈ post, ¬ isSD s ch c)
    {g g' : Global} {t : Tid} (h : step cb g t = some g') (hc : ChanInv (view g s ch))
    (hi : WakeInv s ch v mid post g) : WakeInv s ch v mid post g' := by
  obtain ⟨f, rest, hst, sp⟩ := step_cases h
  have wv := sp.chan s ch
  have hnr : chanOpOf s ch f ≠ .recv := chanOpOf_ne (hi.no_recv t) hst (by simp) rfl
  refine ⟨noCall_step _ cb_sd h _ hi.host_sd, fun t' => noCall_step _ cb_recv h t' (hi.no_recv t'), ?_, ?_, ?_⟩
  · rw [wv]; exact ChanView.readyOfSent_apply hi.ready_of_sent hnr
  · show _ ∨ v ∈ (view g' s ch).sent
    rw [wv]
    rcases hi.send_done with hx | hx
    · -- the host's send: it is this action, or it is still pending
      rcases mem_stack_step hst sp.stack hx with ⟨-, rfl⟩ | hx'
      · right; simp [chanOpOf, ChanView.apply]
      · exact Or.inl hx'
    · exact Or.inr (ChanView.sent_mono hx _)
  · rcases hi.phase with hX | ⟨hflag, hdsd, hph⟩
    · -- the enabling write is still to come, or it is this action
      rcases frame_step hst sp.stack hX with hX' | ⟨rfl, rfl, rfl⟩
      · exact Or.inl hX'
      · right
        refine ⟨?_, ?_, Or.inl ⟨post.map Frame.call, ?_⟩⟩
        · show (view g' s ch).chan.disableInterrupt = 0
          rw [wv]; simp [chanOpOf, ChanView.apply]
        · rw [sp.stack_self]
          intro c hc
          simp only [List.mem_append, List.mem_cons, List.mem_map, Frame.call.injEq, exists_eq_right] at hc
          rcases hc with hc | hc | rfl | hc
          · exact cb_sd c (call_mem_pushed hc)
          · exact mid_sd c hc
          · rintro ⟨w, hw⟩; cases hw
          · exact post_sd c hc
        · rw [sp.stack_self, ← List.append_assoc]; exact List.suffix_append _ _
    · -- the flag is 0 for good
      have hfsd : ∀ w, chanOpOf s ch f ≠ .setDisable w := fun w => by
        cases t
        · exact chanOpOf_ne hi.host_sd hst (by simp) ⟨w, rfl⟩
        · exact chanOpOf_ne hdsd hst (by simp) ⟨w, rfl⟩
      have hflag' : (view g' s ch).chan.disableInterrupt = 0 := by
        rw [wv]; exact ChanView.disableInterrupt_apply hflag hfsd
      right
      refine ⟨hflag', noCall_step _ cb_sd h _ hdsd, ?_⟩
      -- the outcome is stable
      have hout : Outcome s ch v g → Outcome s ch v g' := by
        rintro (hl | ⟨ha, hb⟩)
        · left; rw [wv]; exact ChanView.sawReady_apply hl hnr
        · right
          refine ⟨by rw [wv]; exact ChanView.allRaised_apply ha hflag _, ?_⟩
          rcases hb with hb | hb
          · rcases mem_stack_step hst sp.stack hb with ⟨rfl, rfl⟩ | hb'
            · right; rw [sp.irqSends]; simp [pushed, hflag, isDataHandler]
            · exact Or.inl hb'
          · right; exact Nat.le_trans hb (irqSends_mono h _ _)
      rcases hph with ⟨Y, hY⟩ | ho
      · -- the poll is still to come, or it is this action
        rcases frame_step hst sp.stack hY with hY' | ⟨rfl, rfl, -⟩
        · exact Or.inl ⟨Y, hY'⟩
        · right
          simp only [chanOpOf, and_self, if_true] at wv
          cases hr : (g.chan s ch).ready with
          | true => exact Or.inl (by rw [wv]; exact ⟨by simp [ChanView.apply, view, hr], hr⟩)
          | false =>
            -- nothing was sent yet: the host's send is still to come
            have hs0 : g.sent s ch = [] := Classical.byContradiction fun hne => by
              have := hi.ready_of_sent hne
              simp only [view, hr] at this
              cases this
            have hq0 : g.sentIrq s ch = [] := by
              have := hc.len; simp only [view, hs0] at this; exact List.eq_nil_of_length_eq_zero this
            refine Or.inr ⟨?_, Or.inl ?_⟩
            · rw [wv]; intro b hb
              simp only [ChanView.apply, view, hq0] at hb
              cases hb
            · rw [sp.stack_other (by decide)]
              exact hi.send_done.resolve_right (by rw [hs0]; exact List.not_mem_nil)
      · exact Or.inr (hout ho)

/-- The static side conditions of the scenario, over the host script `hs`, the three free parts `pre`, `mid`,
`post` of the DSP script and the host callbacks: the flag of channel `(s, ch)` is written by nobody but the DSP
thread before its enabling write (`pre` is unconstrained in this respect: it may disable the interrupt), and
nobody receives from the channel. -/
structure EnablePoll (cb : HostCallbacks) (s : Side) (ch : Fin 3) (hs pre mid post : List Call) : Prop where
  host_sd : ∀ w, Call.setDisable s ch w ∉ hs
  mid_sd : ∀ w, Call.setDisable s ch w ∉ mid
  post_sd : ∀ w, Call.setDisable s ch w ∉ post
  cb_sd : ∀ w, ¬ cb.has (Call.setDisable s ch w)
  host_recv : Call.recv s ch ∉ hs
  pre_recv : Call.recv s ch ∉ pre
  mid_recv : Call.recv s ch ∉ mid
  post_recv : Call.recv s ch ∉ post
  cb_recv : ¬ cb.has (Call.recv s ch)

theorem wakeInv_reachable {cb : HostCallbacks} {s : Side} {ch : Fin 3} {v : U16} {hs pre mid post : List Call}
    {icu : Icu} {g : Global} (hyp : EnablePoll cb s ch hs pre mid post) (hsend : Call.send s ch v ∈ hs)
    (hr : Reachable cb (init hs (pre ++ Call.setDisable s ch 0 :: (mid ++ Call.isReady s ch :: post)) icu) g) :
    WakeInv s ch v mid post g := by
  induction hr with
  | init =>
    refine ⟨noCall_map ?_, fun t => ?_, fun h => absurd rfl h, Or.inl (List.mem_map.2 ⟨_, hsend, rfl⟩),
      Or.inl ⟨pre.map Frame.call, by simp [init, tailE]⟩⟩
    · rintro c hc ⟨w, rfl⟩; exact hyp.host_sd w hc
    · cases t <;> refine noCall_map ?_ <;> rintro c hc rfl
      · exact hyp.host_recv hc
      · simp only [List.mem_append, List.mem_cons] at hc
        rcases hc with hc | hc | hc | hc | hc
        · exact hyp.pre_recv hc
        · cases hc
        · exact hyp.mid_recv hc
        · cases hc
        · exact hyp.post_recv hc
  | step t hr' hstep ih =>
    refine wakeInv_step ?_ ?_ ?_ ?_ hstep (chanInv_reachable hr' s ch) ih
    · rintro c hc ⟨w, rfl⟩; exact hyp.cb_sd w hc
    · rintro c hc rfl; exact hyp.cb_recv hc
    · rintro c hc ⟨w, rfl⟩; exact hyp.mid_sd w hc
    · rintro c hc ⟨w, rfl⟩; exact hyp.post_sd w hc

/-! ## the theorems of the scenario -/

section
variable {cb : HostCallbacks} {s : Side} {ch : Fin 3} {v : U16} {hs pre mid post : List Call} {icu : Icu} {g : Global}

private theorem script_eq (pre mid post : List Call) (a b : Call) :
    pre ++ [a] ++ mid ++ [b] ++ post = pre ++ a :: (mid ++ b :: post) := by simp

/-- Once the DSP thread has returned from everything (in particular from its poll), whatever the host thread is
doing: the last poll of the channel returned true and the word is still in the mailbox, or every send made on the
channel so far found the interrupt enabled — and the host's send is either still to come or has counted as an
interrupt-raising send. -/
theorem poll_returned_outcome (hyp : EnablePoll cb s ch hs pre mid post) (hsend : Call.send s ch v ∈ hs)
    (hr : Reachable cb (init hs (pre ++ [Call.setDisable s ch 0] ++ mid ++ [Call.isReady s ch] ++ post) icu) g)
    (hdsp : g.stack Tid.dsp = []) :
    (g.chan s ch).disableInterrupt = 0 ∧
    (((g.polls s ch).getLast? = some true ∧ (g.chan s ch).ready = true) ∨
     ((∀ b ∈ g.sentIrq s ch, b = true) ∧
        (Frame.call (Call.send s ch v) ∈ g.stack Tid.host ∨ 1 ≤ g.irqSends Tid.host s))) := by
  rw [script_eq] at hr
  have hi := wakeInv_reachable hyp hsend hr
  rcases hi.phase with hX | ⟨hflag, _, ⟨Y, hY⟩ | ho⟩
  · cases List.eq_nil_of_suffix_nil (hdsp ▸ hX)
  · cases List.eq_nil_of_suffix_nil (hdsp ▸ hY)
  · exact ⟨hflag, ho⟩

/-- **Enable, then poll, never loses the wake-up.**  The DSP thread's script contains
`SetDisableInterrupt(ch, 0)` and, later, `IsDataReady(ch)`; before that it may do anything with the flag (e.g.
have the interrupt disabled), after it nobody writes the flag; the host thread's script contains a
`SendData(ch, v)`; nobody receives from the channel; everything else in both scripts and in the host callbacks is
arbitrary.  Then in **every** interleaving, once both threads have returned from all their calls: the last poll of
the channel (the DSP's, or a later one) returned `true`, **or** every send on the channel found the interrupt
enabled in its critical section — there was at least one, the host's was one of them, the host thread made the
handler call for each of its interrupt-raising sends and stored every latch those `Trigger`s routed. -/
theorem enable_then_poll_never_loses_wakeup (hyp : EnablePoll cb s ch hs pre mid post)
    (hsend : Call.send s ch v ∈ hs)
    (hr : Reachable cb (init hs (pre ++ [Call.setDisable s ch 0] ++ mid ++ [Call.isReady s ch] ++ post) icu) g)
    (hhost : g.stack Tid.host = []) (hdsp : g.stack Tid.dsp = []) :
    (g.polls s ch).getLast? = some true ∨
    (g.sentIrq s ch ≠ [] ∧ (∀ b ∈ g.sentIrq s ch, b = true) ∧ 1 ≤ g.irqSends Tid.host s ∧
      g.handlerRuns Tid.host s = g.irqSends Tid.host s ∧ g.latched Tid.host = g.routed Tid.host) := by
  obtain ⟨_, ho⟩ := poll_returned_outcome hyp hsend hr hdsp
  have hi := wakeInv_reachable hyp hsend (script_eq pre mid post _ _ ▸ hr)
  rcases ho with ⟨hl, _⟩ | ⟨ha, hb⟩
  · exact Or.inl hl
  · right
    have hret := send_signals_returned hr Tid.host (by rw [hhost]; intro f hf; cases hf)
    refine ⟨?_, ha, ?_, (hret.1 s).symm, hret.2.symm⟩
    · intro e0
      have hlen := (chanInv_reachable hr s ch).len
      simp only [view, e0] at hlen
      have hs0 : g.sent s ch = [] := List.eq_nil_of_length_eq_zero hlen.symm
      rcases hi.send_done with hx | hx
      · rw [hhost] at hx; cases hx
      · rw [hs0] at hx; cases hx
    · rcases hb with hb | hb
      · rw [hhost] at hb; cases hb
      · exact hb

/-- The form in terms of `polls`, `irqSends` and `handlerRuns` only (no `sentIrq`): the poll saw the word, or the
host made an interrupt-raising send (and has called the handler for it). -/
theorem enable_then_poll_never_loses_wakeup' (hyp : EnablePoll cb s ch hs pre mid post)
    (hsend : Call.send s ch v ∈ hs)
    (hr : Reachable cb (init hs (pre ++ [Call.setDisable s ch 0] ++ mid ++ [Call.isReady s ch] ++ post) icu) g)
    (hhost : g.stack Tid.host = []) (hdsp : g.stack Tid.dsp = []) :
    (g.polls s ch).getLast? = some true ∨ (1 ≤ g.irqSends Tid.host s ∧ 1 ≤ g.handlerRuns Tid.host s) := by
  rcases enable_then_poll_never_loses_wakeup hyp hsend hr hhost hdsp with h | ⟨_, _, h1, h2, _⟩
  · exact Or.inl h
  · exact Or.inr ⟨h1, by omega⟩

end

/-! ## the general invariant (arbitrary scripts): signal accounting per side -/

private theorem fin3_cases : ∀ ch : Fin 3, ch = 0 ∨ ch = 1 ∨ ch = 2 := by decide

/-- Number of sends on side `s` (all three channels) whose critical section found the interrupt enabled. -/
def raisedOn (g : Global) (s : Side) : Nat :=
  (g.sentIrq s 0).count true + (g.sentIrq s 1).count true + (g.sentIrq s 2).count true

def RaisedInv (g : Global) (s : Side) : Prop := raisedOn g s = g.irqSends Tid.host s + g.irqSends Tid.dsp s

def ChanOp.raises (c : ChanView) : ChanOp → Nat
  | .send _ => if c.chan.disableInterrupt = 0 then 1 else 0
  | _ => 0

theorem ChanView.count_sentIrq_apply (c : ChanView) (op : ChanOp) :
    (c.apply op).sentIrq.count true = c.sentIrq.count true + op.raises c := by
  cases op <;> simp [ChanView.apply, ChanOp.raises, List.count_append]
  split <;> simp [*]

theorem raises_chanOpOf_of_not_send {s : Side} {f : Frame} (hf : ∀ s' ch' v, f ≠ .call (.send s' ch' v))
    (c : ChanView) (ch : Fin 3) : (chanOpOf s ch f).raises c = 0 := by
  unfold chanOpOf
  split
  · exact absurd rfl (hf _ _ _)
  all_goals first | rfl | (split <;> rfl)

/-- The data-handler frames an action schedules are those of its interrupt-raising send. -/
theorem countP_dh_pushed (cb : HostCallbacks) (g : Global) (f : Frame) (s : Side) :
    (pushed cb g f).countP (isDataHandler s) =
      (chanOpOf s 0 f).raises (view g s 0) + (chanOpOf s 1 f).raises (view g s 1) +
        (chanOpOf s 2 f).raises (view g s 2) := by
  by_cases hf : ∀ s' ch' v, f ≠ .call (.send s' ch' v)
  · simp only [raises_chanOpOf_of_not_send hf]
    unfold pushed
    split
    · exact absurd rfl (hf _ _ _)
    · dsimp only; split <;> rfl
    · dsimp only; split <;> rfl
    · exact countP_trigFrames_dh _ _ _
    · rename_i s' _; cases s'
      · exact countP_trigFrames_dh _ _ _
      · exact countP_calls (fun _ => rfl) _
    · rename_i s'; cases s'
      · exact countP_trigFrames_dh _ _ _
      · exact countP_calls (fun _ => rfl) _
    · rfl
  · simp only [ne_eq, Classical.not_forall, Classical.not_not] at hf
    obtain ⟨s', ch', w, rfl⟩ := hf
    simp only [pushed, chanOpOf]
    by_cases es : s' = s
    · subst es
      rcases fin3_cases ch' with rfl | rfl | rfl <;> simp [ChanOp.raises, view] <;> split <;> simp [isDataHandler, *]
    · simp [ChanOp.raises, es, isDataHandler]

theorem raisedInv_step {cb : HostCallbacks} {g g' : Global} {t : Tid} (h : step cb g t = some g') (s : Side)
    (hi : RaisedInv g s) : RaisedInv g' s := by
  obtain ⟨f, rest, -, sp⟩ := step_cases h
  have hq : ∀ ch, (g'.sentIrq s ch).count true =
      (g.sentIrq s ch).count true + (chanOpOf s ch f).raises (view g s ch) := fun ch =>
    (congrArg (fun c => c.sentIrq.count true) (sp.chan s ch)).trans (ChanView.count_sentIrq_apply _ _)
  have hc := sp.irqSends s
  rw [countP_dh_pushed] at hc
  unfold RaisedInv raisedOn at *
  rw [hq 0, hq 1, hq 2]
  cases t
  · rw [hc, sp.irqSends_other (t' := .dsp) (by decide)]; omega
  · rw [hc, sp.irqSends_other (t' := .host) (by decide)]; omega

theorem raisedInv_reachable {cb : HostCallbacks} {hs ds : List Call} {icu : Icu} {g : Global}
    (hr : Reachable cb (init hs ds icu) g) (s : Side) : RaisedInv g s := by
  induction hr with
  | init => simp [RaisedInv, raisedOn, init]
  | step t _ hstep ih => exact raisedInv_step hstep s ih

/-- **Signal accounting, for arbitrary scripts on both threads and arbitrary host callbacks.**  In every reachable
state and for each side: the number of sends (on the three channels) whose atomic action read
`disable_interrupt = 0` equals the number of data-handler calls the two threads have made plus the handler frames
still pending on their stacks (each the very next action of its thread, `send_calls_handler`).  `irqSends` and
`handlerRuns` only ever grow, so an ICU acknowledge cannot undo this. -/
theorem signal_accounting {cb : HostCallbacks} {hs ds : List Call} {icu : Icu} {g : Global}
    (hr : Reachable cb (init hs ds icu) g) (s : Side) :
    raisedOn g s =
      (g.handlerRuns Tid.host s + (g.stack Tid.host).countP (isDataHandler s)) +
      (g.handlerRuns Tid.dsp s + (g.stack Tid.dsp).countP (isDataHandler s)) := by
  have h1 := raisedInv_reachable hr s
  have h2 := (send_signals hr).1
  unfold RaisedInv at h1
  rw [h1, h2 Tid.host s, h2 Tid.dsp s]

/-- … in particular: if channel `(s, ch)` is ready **because of a send whose atomic action ran while
`disable_interrupt = 0`** (the last send on it is recorded as such), then some thread has the data handler of
side `s` pending on its stack or has already run it.  (The hypothesis `ready` is not even needed: a
received word's signal is accounted for just the same.) -/
theorem ready_by_enabled_send_signalled {cb : HostCallbacks} {hs ds : List Call} {icu : Icu} {g : Global}
    (hr : Reachable cb (init hs ds icu) g) (s : Side) (ch : Fin 3) (_hready : (g.chan s ch).ready = true)
    (hlast : (g.sentIrq s ch).getLast? = some true) :
    ∃ t, (∃ ch', Frame.dataHandler s ch' ∈ g.stack t) ∨ 1 ≤ g.handlerRuns t s := by
  have hmem : true ∈ g.sentIrq s ch := List.mem_of_getLast? hlast
  have hpos : 1 ≤ (g.sentIrq s ch).count true := List.count_pos_iff.2 hmem
  have hge : 1 ≤ raisedOn g s := by
    have hch := fin3_cases ch
    unfold raisedOn
    rcases hch with rfl | rfl | rfl <;> omega
  rw [signal_accounting hr s] at hge
  have pend : ∀ t, 1 ≤ (g.stack t).countP (isDataHandler s) → ∃ ch', Frame.dataHandler s ch' ∈ g.stack t := by
    intro t ht
    obtain ⟨f, hf, hp⟩ := List.countP_pos_iff.1 ht
    cases f <;> simp [isDataHandler] at hp
    subst hp
    exact ⟨_, hf⟩
  by_cases a : 1 ≤ g.handlerRuns Tid.host s
  · exact ⟨Tid.host, Or.inr a⟩
  by_cases b : 1 ≤ g.handlerRuns Tid.dsp s
  · exact ⟨Tid.dsp, Or.inr b⟩
  by_cases c : 1 ≤ (g.stack Tid.host).countP (isDataHandler s)
  · exact ⟨Tid.host, Or.inl (pend _ c)⟩
  · exact ⟨Tid.dsp, Or.inl (pend _ (by omega))⟩

/-! ## the two halves, script-free: from any state on -/

section
variable {cb : HostCallbacks} {s : Side} {ch : Fin 3} {g₁ g : Global}

/-- From a state on in which no call satisfying `P` is still to come, a property of channel `(s, ch)` that only the
operations of such calls can break holds for good. -/
theorem window {P : Call → Prop} {Q : ChanView → Prop} (hcb : ∀ c, cb.has c → ¬ P c)
    (hQ : ∀ c op, Q c → (op ≠ .none → ¬ P (op.toCall s ch)) → Q (c.apply op))
    (hq : ∀ t, noCall P (g₁.stack t)) (h1 : Q (view g₁ s ch)) (hr : Reachable cb g₁ g) :
    (∀ t, noCall P (g.stack t)) ∧ Q (view g s ch) := by
  induction hr with
  | init => exact ⟨hq, h1⟩
  | @step g g' t _ hstep ih =>
    obtain ⟨f, rest, hst, sp⟩ := step_cases hstep
    refine ⟨fun t' => noCall_step _ hcb hstep t' (ih.1 t'), ?_⟩
    rw [sp.chan]
    exact hQ _ _ ih.2 fun hop hP => chanOpOf_ne (ih.1 t) hst hop hP rfl

/-- **After the enabling write, every send raises.**  From any state `g₁` (reachable or not) in which the flag of
channel `(s, ch)` is 0 and no write to that flag is still to come (none among the not-yet-started calls on either
stack, none in the host callbacks): in every later state the flag is still 0 and every send made on the channel
since `g₁` found the interrupt enabled. -/
theorem enabled_window_sends_raise (hcb : ∀ c, cb.has c → ¬ isSD s ch c)
    (hq : ∀ t, noCall (isSD s ch) (g₁.stack t)) (hflag : (g₁.chan s ch).disableInterrupt = 0)
    (hr : Reachable cb g₁ g) :
    (∀ t, noCall (isSD s ch) (g.stack t)) ∧ (g.chan s ch).disableInterrupt = 0 ∧
    ∃ k, g.sentIrq s ch = g₁.sentIrq s ch ++ List.replicate k true ∧
         (g.sent s ch).length = (g₁.sent s ch).length + k := by
  refine window (Q := fun c => c.chan.disableInterrupt = 0 ∧ ∃ k, c.sentIrq = g₁.sentIrq s ch ++ List.replicate k true ∧
    c.sent.length = (g₁.sent s ch).length + k) hcb ?_ hq ⟨hflag, 0, by simp [view], rfl⟩ hr
  rintro c op ⟨hf, k, hk, hl⟩ hP
  cases op with
  | setDisable w => exact absurd ⟨w, rfl⟩ (hP (by simp))
  | send w =>
    refine ⟨hf, k + 1, ?_, ?_⟩
    · simp only [ChanView.apply, hk, hf, List.replicate_succ', decide_true, List.append_assoc]
    · simp only [ChanView.apply, List.length_append, List.length_singleton, hl]; omega
  | _ => exact ⟨hf, k, hk, hl⟩

/-- **After a send, every poll sees the word** — as long as nobody receives it.  From any state `g₁` in which
channel `(s, ch)` is ready and no receive from it is still to come: in every later state it is still ready and
every poll made since `g₁` returned true. -/
theorem ready_window_polls_true (hcb : ∀ c, cb.has c → ¬ isRecv s ch c)
    (hq : ∀ t, noCall (isRecv s ch) (g₁.stack t)) (hready : (g₁.chan s ch).ready = true)
    (hr : Reachable cb g₁ g) :
    (∀ t, noCall (isRecv s ch) (g.stack t)) ∧ (g.chan s ch).ready = true ∧
    ∃ k, g.polls s ch = g₁.polls s ch ++ List.replicate k true := by
  refine window (Q := fun c => c.chan.ready = true ∧ ∃ k, c.polls = g₁.polls s ch ++ List.replicate k true)
    hcb ?_ hq ⟨hready, 0, by simp [view]⟩ hr
  rintro c op ⟨hf, k, hk⟩ hP
  cases op with
  | recv => exact absurd rfl (hP (by simp))
  | poll => exact ⟨hf, k + 1, by simp only [ChanView.apply, hk, hf, List.replicate_succ', List.append_assoc]⟩
  | send w => exact ⟨rfl, k, hk⟩
  | _ => exact ⟨hf, k, hk⟩

end

/-! ## why the atomicity matters: a `Send` that samples the flag in an earlier critical section

The variant keeps, per thread, the flag value a `Send` in progress has sampled.  A `Send` is two actions of its
thread: first *read the interrupt-disable flag* (nothing else changes), later *store `ready`/`data`* and schedule the
handler iff the **sampled** flag was clear.  Every other action is the one of `step`.  (This is the seeded defect
`enable_then_poll_never_loses_wakeup` excludes: `DataChannel::Send` reading `disable_interrupt` in a critical
section of its own, before the one that stores the word.) -/

structure SplitState where
  g : Global
  /-- `sampled t = some irq`: thread `t` is inside a `Send` and has read "interrupt enabled = `irq`" -/
  sampled : Tid → Option Bool

def stepSplit (cb : HostCallbacks) (σ : SplitState) (t : Tid) : Option SplitState :=
  match σ.g.stack t with
  | Frame.call (Call.send s ch v) :: rest =>
    match σ.sampled t with
    | none => some { σ with sampled := upd σ.sampled t (some (decide ((σ.g.chan s ch).disableInterrupt = 0))) }
    | some irq =>
      let g := σ.g
      let a := g.apbp s
      some { g := { g with
                apbp := upd g.apbp s
                  { a with dataChannels := a.dataChannels.set ch { a.dataChannels[ch] with ready := true, data := v } },
                sent := upd g.sent s (upd (g.sent s) ch (g.sent s ch ++ [v])),
                irqSends := upd g.irqSends t (upd (g.irqSends t) s (g.irqSends t s + (if irq then 1 else 0))),
                sentIrq := upd g.sentIrq s (upd (g.sentIrq s) ch (g.sentIrq s ch ++ [irq])),
                stack := upd g.stack t (if irq then Frame.dataHandler s ch :: rest else rest) },
             sampled := upd σ.sampled t none }
  | _ => (step cb σ.g t).map fun g' => { σ with g := g' }

def runSplit (cb : HostCallbacks) : List Tid → SplitState → SplitState
  | [], σ => σ
  | t :: ts, σ => runSplit cb ts ((stepSplit cb σ t).getD σ)

private theorem upd_upd {α β : Type} [DecidableEq α] (f : α → β) (a : α) (b c : β) :
    upd (upd f a b) a c = upd f a c := by
  funext x; by_cases h : x = a <;> simp [upd, h]

/-- Sanity of the variant: the two actions of a split `Send`, performed back to back, are exactly the atomic
`Send` of `step` — the variant differs from the model only in letting other actions in between. -/
theorem stepSplit_back_to_back {cb : HostCallbacks} {σ : SplitState} {t : Tid} {s : Side} {ch : Fin 3} {v : U16}
    {rest : List Frame} (hst : σ.g.stack t = Frame.call (Call.send s ch v) :: rest) (hsm : σ.sampled t = none) :
    ((stepSplit cb σ t).bind fun σ' => stepSplit cb σ' t) =
      (step cb σ.g t).map fun g' => { g := g', sampled := upd σ.sampled t none } := by
  -- the matches are reduced by `rw` and `dsimp only`; `simp only [stepSplit, hst]` alone costs three times all of this
  unfold stepSplit step
  rw [hst, hsm]
  dsimp only [Option.bind_some]
  rw [hst, upd_same, upd_upd]
  dsimp only [execFrame, execCall]
  rw [sendData_raises]
  rfl

def noCb : HostCallbacks := ⟨fun _ => [], []⟩

/-- The scenario of the theorem, with the interrupt disabled to begin with: the DSP disables the channel-0 data
interrupt of `apbp_from_cpu`, later enables it and polls once; the host sends a word on that channel. -/
def wakeHost : List Call := [.send .cpu 0 5]
def wakeDsp : List Call := [.setDisable .cpu 0 1, .setDisable .cpu 0 0, .isReady .cpu 0]
def wakeIcu : Icu := { enabled := #v[0x4000, 0, 0] }

/-- The script is an instance of the scenario (`pre = [SetDisableInterrupt(0, 1)]`, `mid = post = []`). -/
theorem wake_scenario : EnablePoll noCb .cpu 0 wakeHost [.setDisable .cpu 0 1] [] [] := by
  refine ⟨?_, ?_, ?_, ?_, ?_, ?_, ?_, ?_, ?_⟩ <;> simp [wakeHost, noCb, HostCallbacks.has]

/-- **With the flag read in an earlier critical section the wake-up is lost.**  Schedule: the DSP disables the
interrupt; the host's `Send` samples the flag (disabled); the DSP enables the interrupt and polls — not ready; the
host's `Send` stores the word and, going by its stale sample, does not call the handler.  Both threads have
returned; the word sits in the mailbox with the interrupt enabled; the poll saw `false`; no interrupt was or will
be raised.  (The same script under `step` cannot end like this: `enable_then_poll_never_loses_wakeup`.) -/
theorem split_send_loses_wakeup :
    let σ := runSplit noCb [.dsp, .host, .dsp, .dsp, .host] ⟨init wakeHost wakeDsp wakeIcu, fun _ => none⟩
    σ.g.stack .host = [] ∧ σ.g.stack .dsp = [] ∧ σ.sampled .host = none ∧
    σ.g.polls .cpu 0 = [false] ∧
    (σ.g.chan .cpu 0).ready = true ∧ (σ.g.chan .cpu 0).data = 5 ∧ (σ.g.chan .cpu 0).disableInterrupt = 0 ∧
    σ.g.sent .cpu 0 = [5] ∧ σ.g.sentIrq .cpu 0 = [false] ∧
    σ.g.irqSends .host .cpu = 0 ∧ σ.g.irqSends .dsp .cpu = 0 ∧ σ.g.handlerRuns .host .cpu = 0 ∧
    σ.g.triggers = 0 ∧ σ.g.icu.request = 0 ∧ σ.g.latch 0 = false := by
  decide

/-- The same from an initial state that already has the flag set (no disabling call at all): flag = 1, the host
samples it, the DSP enables and polls, the host stores. -/
theorem split_send_loses_wakeup_flag1 :
    let g₀ : Global := { init wakeHost [.setDisable .cpu 0 0, .isReady .cpu 0] wakeIcu with
      apbp := fun _ => { dataChannels := #v[{ disableInterrupt := 1 }, {}, {}] } }
    let σ := runSplit noCb [.host, .dsp, .dsp, .host] ⟨g₀, fun _ => none⟩
    (g₀.chan .cpu 0).disableInterrupt = 1 ∧
    σ.g.stack .host = [] ∧ σ.g.stack .dsp = [] ∧ σ.g.polls .cpu 0 = [false] ∧
    (σ.g.chan .cpu 0).ready = true ∧ (σ.g.chan .cpu 0).disableInterrupt = 0 ∧
    σ.g.irqSends .host .cpu = 0 ∧ σ.g.triggers = 0 := by
  decide

/-! ## non-vacuity of the theorem: both disjuncts occur, under the atomic semantics `step` -/

/-- Same script, same relative order of the calls as in the lost wake-up (disable, enable, poll, then the send):
the poll sees `false` and the atomic `Send` raises the interrupt — handler called, request bit 0xE set, latch of
line 0 stored. -/
theorem wake_poll_false_irq_raised :
    let g := run noCb [.dsp, .dsp, .dsp, .host, .host, .host, .host] (init wakeHost wakeDsp wakeIcu)
    g.stack .host = [] ∧ g.stack .dsp = [] ∧ g.polls .cpu 0 = [false] ∧ g.sentIrq .cpu 0 = [true] ∧
    g.irqSends .host .cpu = 1 ∧ g.handlerRuns .host .cpu = 1 ∧ g.icu.request = 0x4000 ∧ g.latch 0 = true ∧
    g.latched .host = 1 := by
  decide

/-- The send falls between the disabling and the enabling write: no interrupt, and the poll sees the word. -/
theorem wake_poll_true_no_irq :
    let g := run noCb [.dsp, .host, .dsp, .dsp] (init wakeHost wakeDsp wakeIcu)
    g.stack .host = [] ∧ g.stack .dsp = [] ∧ g.polls .cpu 0 = [true] ∧ g.sentIrq .cpu 0 = [false] ∧
    g.irqSends .host .cpu = 0 ∧ g.triggers = 0 ∧ (g.chan .cpu 0).ready = true := by
  decide

/-- The theorem applies to every state a schedule of this script produces. -/
example (ts : List Tid) :
    let g := run noCb ts (init wakeHost wakeDsp wakeIcu)
    g.stack .host = [] → g.stack .dsp = [] →
    (g.polls .cpu 0).getLast? = some true ∨ (1 ≤ g.irqSends .host .cpu ∧ 1 ≤ g.handlerRuns .host .cpu) := by
  intro g h1 h2
  exact enable_then_poll_never_loses_wakeup' (v := 5) (mid := []) (post := []) wake_scenario (by simp [wakeHost])
    (run_reachable _ _ ts _ Reachable.init) h1 h2

end Teakra.Conc
