import TeakraModel.RegFile
import TeakraModel.ArDecode
import TeakraModel.Generated.RegLayout
import Proofs.Lemmas.Bits
/-!
# C20 — status/config words are faithful bit-field views of one register state

Theorems about `PseudoRegister::Get/Set` (`TeakraModel/RegFile.lean`) over the **generated** layout
table `Teakra.Regs.layouts` (`TeakraModel/Generated/RegLayout.lean`, rewritten from
`/repo/include/teakra/impl/register.h` on every check run).

Structure: a decidable condition `WordOk` on a resolved slot list; lemmas `WordOk rs → …` for arbitrary
slot lists; one kernel evaluation `layouts_ok_all` of its decision procedure `wordOk` over the table;
the property theorems instantiate the lemmas.  When register.h changes, the table changes and every
`decide` below is re-run on the new table.

Hypotheses: `Sized s` (the register file has one entry per member) wherever a written member is read
back (the frame theorems and the accumulator nibble need none);
`WF s` (every member within its hardware width, accumulators sign-extended) wherever a word is
*read*: `PseudoRegister::Get` does not mask a member to its slot, so an over-wide member bleeds into
neighbouring bits (`get_set_fails_without_WF`).
-/
namespace Teakra.Regs
open RegFile

-- `cellOf` is a search in the member table, and only `cellOf_inj` looks inside.  (Left reducible, `rfl`
-- and `▸` on terms that mention it start running the search.)
attribute [local irreducible] cellOf

/-! ## machinery: bits, cells, single slots -/

theorem lowMask_toNat (len : Nat) (hl : len ≤ 16) : (lowMask len).toNat = 2 ^ len - 1 :=
  toNat_two_pow_sub_one hl (BitVec.toNat_twoPow 16 len)

theorem lowMask_bit (len : Nat) (hl : len ≤ 16) (j : Nat) : (lowMask len).getLsbD j = decide (j < len) := by
  rw [BitVec.getLsbD, lowMask_toNat len hl, Nat.testBit_two_pow_sub_one]

/-- The mask as `PseudoRegister::Set` of the interpreter model spells it. -/
theorem lowMask_eq_ofNat (len : Nat) (hl : len ≤ 16) : lowMask len = BitVec.ofNat 16 (2 ^ len - 1) := by
  apply BitVec.eq_of_toNat_eq
  have := Nat.pow_le_pow_right (by decide : 0 < 2) hl
  rw [lowMask_toNat len hl, BitVec.toNat_ofNat, Nat.mod_eq_of_lt (by omega)]

theorem fieldVal_bit (v : U16) (pos len j : Nat) (hl : len ≤ 16) :
    (fieldVal v pos len).getLsbD j = (decide (j < len) && v.getLsbD (pos + j)) := by
  rw [fieldVal, BitVec.getLsbD_and, BitVec.getLsbD_ushiftRight, lowMask_bit len hl, Bool.and_comm]

theorem fieldVal_lt (v : U16) (pos len : Nat) (hl : len ≤ 16) : (fieldVal v pos len).toNat < 2 ^ len := by
  unfold fieldVal
  rw [BitVec.toNat_and, lowMask_toNat len hl]
  have := @Nat.and_le_right (v >>> pos).toNat (2 ^ len - 1)
  have : 0 < 2 ^ len := Nat.two_pow_pos len
  omega

theorem fieldVal_nibble (v : U16) (pos : Nat) {len : Nat} (h : len = 4) : (fieldVal v pos len).toNat < 16 := by
  subst h; exact fieldVal_lt v pos 4 (by decide)

theorem slotMask_bit (pos len i : Nat) (hl : len ≤ 16) (hi : i < 16) :
    (slotMask pos len).getLsbD i = (decide (pos ≤ i) && decide (i < pos + len)) := by
  rw [slotMask, BitVec.getLsbD_shiftLeft, lowMask_bit len hl]
  by_cases h : i < pos
  · simp [h, Nat.not_le.2 h]
  · have h1 := Nat.le_of_not_lt h
    simp [h, h1, hi, Nat.sub_lt_iff_lt_add' h1]

private theorem bit_of_lt {x : U16} {n k : Nat} (h : x.toNat < 2 ^ n) (hk : n ≤ k) : x.getLsbD k = false :=
  Nat.testBit_lt_two_pow (Nat.lt_of_lt_of_le h (Nat.pow_le_pow_right (by omega) hk))

theorem getC_setC (s : RegFile) (c c' : Nat) (x : U16) :
    (s.setC c x).getC c' = if c' = c ∧ c' < s.regs.size then x else s.getC c' := by
  unfold getC setC
  rw [Array.getD_eq_getD_getElem?, Array.getD_eq_getD_getElem?, Array.getElem?_setIfInBounds]
  by_cases h1 : c = c'
  · subst h1; by_cases h2 : c < s.regs.size <;> simp [h2]
  · simp [h1, Ne.symm h1]

private theorem size_setC (s : RegFile) (c : Nat) (x : U16) : (s.setC c x).regs.size = s.regs.size := by
  simp [setC]
private theorem a0_setC (s : RegFile) (c : Nat) (x : U16) : (s.setC c x).a0 = s.a0 := rfl
private theorem a1_setC (s : RegFile) (c : Nat) (x : U16) : (s.setC c x).a1 = s.a1 := rfl
private theorem getA_setC (s : RegFile) (c : Nat) (x : U16) (i : Nat) : (s.setC c x).getA i = s.getA i := rfl
private theorem regs_setA (s : RegFile) (i : Nat) (x : U64) : (s.setA i x).regs = s.regs := by
  unfold setA; repeat' split
  all_goals rfl
/-- `setA` of an index that does not exist writes nothing, and then `i ≠ j`. -/
private theorem getA_setA (s : RegFile) (i j : Nat) (x : U64) (hj : j < 2) :
    (s.setA i x).getA j = if i = j then x else s.getA j := by
  unfold setA getA
  obtain rfl | rfl : j = 0 ∨ j = 1 := by omega
  all_goals by_cases h0 : i = 0 <;> by_cases h1 : i = 1 <;> simp [h0, h1]

/-- The cells a slot's `Set` may assign, whatever the value.  "What a slot writes" comes in three forms: `targets`
(resolved cells, may-assign: what `Compat`, `WordOk.ro` and `setWordR_frame` speak of), `assigned` (resolved cells
and the value, for given slot bits: what `proxySet` does, `getC_proxySet`) and `Slot.assigns` (member names of the
unresolved slot: the hypothesis of `set_frame`); `assigned_subset` and `targets_resolve` link them. -/
def targets (r : RSlot) : List Nat :=
  match r.kind with
  | .rw => [r.c1]
  | .double => [r.c1, r.c2]
  | .lp => [r.c1, r.c2]
  | _ => []

/-- The cells a slot's `Set` assigns when the slot's bits are `x`, and the value they all get
(`LPRedirector` assigns only for `x ≠ 0`, and then zeros). -/
def assigned (r : RSlot) (x : U16) : List Nat × U16 :=
  match r.kind with
  | .rw => ([r.c1], x)
  | .double => ([r.c1, r.c2], x)
  | .lp => (if x ≠ 0#16 then [r.c1, r.c2] else [], 0#16)
  | _ => ([], x)

theorem assigned_subset {r : RSlot} {x : U16} {c : Nat} (h : c ∈ (assigned r x).1) : c ∈ targets r := by
  revert h; unfold assigned targets
  cases r.kind <;> simp

theorem getC_setC_setC (s : RegFile) (c1 c2 c : Nat) (y : U16) :
    ((s.setC c2 y).setC c1 y).getC c = if (c = c1 ∨ c = c2) ∧ c < s.regs.size then y else s.getC c := by
  rw [getC_setC, getC_setC, size_setC]
  by_cases h3 : c < s.regs.size <;> simp only [h3, and_true, and_false, if_false]
  by_cases h1 : c = c1 <;> simp only [h1, true_or, false_or, if_true, if_false]

/-- `Proxy::Set` on cells: the assigned cells (that exist) get the value, every other cell keeps
its own. -/
theorem getC_proxySet (r : RSlot) (x : U16) (s : RegFile) (c : Nat) :
    (proxySet r x s).getC c =
      if c ∈ (assigned r x).1 ∧ c < s.regs.size then (assigned r x).2 else s.getC c := by
  unfold proxySet assigned
  cases r.kind <;> simp only [List.mem_cons, List.not_mem_nil, or_false, false_and, if_false]
  · exact getC_setC ..
  · exact getC_setC_setC ..
  · rw [getC, regs_setA]; rfl
  · split
    · rw [getC_setC_setC]
      simp only [List.mem_cons, List.not_mem_nil, false_or, Or.comm]
    · simp

theorem proxySet_frame (r : RSlot) (x : U16) (s : RegFile) (c : Nat) (h : c ∉ (assigned r x).1) :
    (proxySet r x s).getC c = s.getC c := by
  rw [getC_proxySet, if_neg (fun e => h e.1)]

theorem proxySet_size (r : RSlot) (x : U16) (s : RegFile) : (proxySet r x s).regs.size = s.regs.size := by
  unfold proxySet
  cases hk : r.kind <;> simp only
  · exact size_setC ..
  · rw [size_setC, size_setC]
  · rw [regs_setA]
  · split
    · rw [size_setC, size_setC]
    · rfl

/-- Per-slot side conditions: the slot lies inside the word, names existing cells, and is exactly as
wide as the hardware width of its member. -/
def SlotOk (r : RSlot) : Prop :=
  (1 ≤ r.len ∧ r.pos + r.len ≤ 16) ∧
  match r.kind with
  | .rw | .ro => r.c1 < nCells ∧ cellBits r.c1 = r.len
  | .double => r.c1 < nCells ∧ r.c2 < nCells ∧ cellBits r.c1 = r.len ∧ cellBits r.c2 = r.len
  | .lp => r.c1 < nCells ∧ r.c2 < nCells ∧ cellBits r.c1 = r.len
  | .accE => r.c1 < 2 ∧ r.len = 4

instance (r : RSlot) : Decidable (SlotOk r) := by
  unfold SlotOk; cases r.kind <;> exact inferInstanceAs (Decidable (_ ∧ _))

theorem SlotOk.accE {r : RSlot} (h : SlotOk r) (hk : r.kind = .accE) : r.c1 < 2 ∧ r.len = 4 := by
  simpa only [hk] using h.2

theorem targets_lt {r : RSlot} (h : SlotOk r) {c : Nat} (hc : c ∈ targets r) : c < nCells := by
  have h := h.2
  unfold targets at hc
  cases hk : r.kind <;> simp only [hk, List.mem_cons, List.not_mem_nil, or_false] at h hc <;> omega

/-- Two slots do not interfere: disjoint bit ranges, disjoint assigned cells, different accumulators. -/
structure Compat (a b : RSlot) : Prop where
  ranges : a.pos + a.len ≤ b.pos ∨ b.pos + b.len ≤ a.pos
  cells : ∀ c ∈ targets a, c ∉ targets b
  acc : a.kind = .accE → b.kind = .accE → a.c1 ≠ b.c1

instance (a b : RSlot) : Decidable (Compat a b) :=
  decidable_of_iff (_ ∧ _ ∧ _) ⟨fun ⟨h1, h2, h3⟩ => ⟨h1, h2, h3⟩, fun ⟨h1, h2, h3⟩ => ⟨h1, h2, h3⟩⟩

/-- What the theorems about `Get`/`Set` need of a slot list.  `compat`: each slot against the later
ones (the three conditions are symmetric; a slot listed twice fails `ranges`).  `ro`: only an
`LPRedirector` slot may assign the cell behind an `RO` slot, and then only through its second target
(`bcn`). -/
structure WordOk (rs : List RSlot) : Prop where
  slot : ∀ r ∈ rs, SlotOk r
  compat : rs.Pairwise Compat
  ro : ∀ a ∈ rs, ∀ b ∈ rs, a.kind = .ro → a.c1 ∈ targets b → b.kind = .lp ∧ a.c1 = b.c2

instance (rs : List RSlot) : Decidable (WordOk rs) :=
  decidable_of_iff (_ ∧ _ ∧ _) ⟨fun ⟨h1, h2, h3⟩ => ⟨h1, h2, h3⟩, fun ⟨h1, h2, h3⟩ => ⟨h1, h2, h3⟩⟩

/-- The checker that `layouts_ok_all` runs over the table. -/
def wordOk (rs : List RSlot) : Bool := decide (WordOk rs)

theorem WordOk.tail {r : RSlot} {rs : List RSlot} (h : WordOk (r :: rs)) : WordOk rs :=
  ⟨fun a ha => h.slot a (.tail _ ha), h.compat.of_cons, fun a ha b hb => h.ro a (.tail _ ha) b (.tail _ hb)⟩

theorem WordOk.head {r : RSlot} {rs : List RSlot} (h : WordOk (r :: rs)) : ∀ b ∈ rs, Compat r b :=
  (List.pairwise_cons.mp h.compat).1

private theorem setWordR_nil (v : U16) (s : RegFile) : setWordR [] v s = s := rfl
private theorem setWordR_cons (r : RSlot) (rs : List RSlot) (v : U16) (s : RegFile) :
    setWordR (r :: rs) v s = setWordR rs v (proxySet r (fieldVal v r.pos r.len) s) := rfl

theorem setWordR_size (rs : List RSlot) (v : U16) (s : RegFile) : (setWordR rs v s).regs.size = s.regs.size := by
  induction rs generalizing s with
  | nil => rfl
  | cons r rs ih => rw [setWordR_cons, ih, proxySet_size]

/-- `_w`: the frame for the written value `v`, over `assigned`; `setWordR_frame` below is the form for all values,
over `targets`.  (`ro_unchanged` needs this one: an `LPRedirector` bit written as 0 assigns nothing.) -/
theorem setWordR_frame_w (rs : List RSlot) (v : U16) (s : RegFile) (c : Nat)
    (h : ∀ r ∈ rs, c ∉ (assigned r (fieldVal v r.pos r.len)).1) : (setWordR rs v s).getC c = s.getC c := by
  induction rs generalizing s with
  | nil => rfl
  | cons r rs ih =>
    rw [setWordR_cons, ih _ (fun r' hr' => h r' (List.mem_cons_of_mem _ hr')),
      proxySet_frame _ _ _ _ (h r List.mem_cons_self)]

theorem setWordR_frame (rs : List RSlot) (v : U16) (s : RegFile) (c : Nat)
    (h : ∀ r ∈ rs, c ∉ targets r) : (setWordR rs v s).getC c = s.getC c :=
  setWordR_frame_w rs v s c (fun r hr e => h r hr (assigned_subset e))

/-- On a slot's own targets the word's `Set` is the slot's `Set`: no other slot of the word assigns
them. -/
theorem setWordR_targets {rs : List RSlot} {v : U16} {s : RegFile} (hok : WordOk rs)
    {r : RSlot} (hr : r ∈ rs) {c : Nat} (hc : c ∈ targets r) :
    (setWordR rs v s).getC c = (proxySet r (fieldVal v r.pos r.len) s).getC c := by
  induction rs generalizing s with
  | nil => cases hr
  | cons r0 rs ih =>
    rw [setWordR_cons]
    rcases List.mem_cons.mp hr with rfl | hin
    · exact setWordR_frame _ _ _ _ fun b hb => (hok.head b hb).cells c hc
    · rw [ih hok.tail hin, getC_proxySet, getC_proxySet r _ s, proxySet_size]
      refine ite_congr rfl (fun _ => rfl) fun _ => ?_
      exact proxySet_frame _ _ _ _ fun e => (hok.head r hin).cells c (assigned_subset e) hc

/-- … so the cells the slot assigns hold the assigned value (they exist because of `SlotOk`). -/
theorem setWordR_written {rs : List RSlot} {v : U16} {s : RegFile} (hs : Sized s) (hok : WordOk rs)
    {r : RSlot} (hr : r ∈ rs) : ∀ c ∈ (assigned r (fieldVal v r.pos r.len)).1,
      (setWordR rs v s).getC c = (assigned r (fieldVal v r.pos r.len)).2 := by
  intro c h
  have hc := assigned_subset h
  have hlt : c < s.regs.size := hs ▸ targets_lt (hok.slot _ hr) hc
  rw [setWordR_targets hok hr hc, getC_proxySet, if_pos ⟨h, hlt⟩]

/-! ### read side -/

theorem foldl_bit {α : Type} {w : Nat} (g : BitVec w → α → BitVec w) (b : α → Bool) (i : Nat) (l : List α)
    (h : ∀ a ∈ l, ∀ acc, (g acc a).getLsbD i = (acc.getLsbD i || b a)) (acc : BitVec w) :
    (l.foldl g acc).getLsbD i = (acc.getLsbD i || l.any b) := by
  induction l generalizing acc with
  | nil => simp
  | cons a l ih =>
    rw [List.foldl_cons, ih (fun x hx => h x (List.mem_cons_of_mem _ hx)), h a List.mem_cons_self,
      List.any_cons, Bool.or_assoc]

/-- What `PseudoRegister::Get` makes of the values `val a` its proxies read: each is promoted to `int`
and shifted to `pos a`, and the `or` of all is truncated to `u16`.  `getWordR rs s` is
`packWord rs (·.pos) (proxyGet · s)`; `Interp.wordGet slots r` is `packWord slots (·.pos) (Interp.slotGet r)`
(`Proofs/C08Stack/Abs.lean`).  What a proxy reads plays no part in the facts about the word. -/
def packWord {α : Type} (l : List α) (pos : α → Nat) (val : α → U16) : U16 :=
  (l.foldl (fun (acc : U32) a => acc ||| ((val a).setWidth 32 <<< pos a)) 0).setWidth 16

/-- The `int` promotion is invisible after truncation to `u16`. -/
theorem packWord_bit {α : Type} (l : List α) (pos : α → Nat) (val : α → U16) (i : Nat) (hi : i < 16) :
    (packWord l pos val).getLsbD i = l.any (fun a => decide (pos a ≤ i) && (val a).getLsbD (i - pos a)) := by
  rw [packWord, BitVec.getLsbD_setWidth, foldl_bit _ (fun a => decide (pos a ≤ i) && (val a).getLsbD (i - pos a))]
  · simp [hi]
  · intro a _ acc
    have h32 : i < 32 := Nat.lt_trans hi (by decide)
    have := Nat.lt_of_le_of_lt (Nat.sub_le i (pos a)) h32
    rw [BitVec.getLsbD_or, BitVec.getLsbD_shiftLeft, BitVec.getLsbD_setWidth]
    by_cases hp : i < pos a
    · simp [hp, Nat.not_le.2 hp]
    · simp [Nat.le_of_not_lt hp, *]

section
variable {α : Type} [DecidableEq α] {l : List α} {pos len : α → Nat} {val : α → U16}
  (hin : ∀ a ∈ l, pos a + len a ≤ 16)
  (hd : l.Pairwise fun a b => pos a + len a ≤ pos b ∨ pos b + len b ≤ pos a)
  (hf : ∀ a ∈ l, (val a).toNat < 2 ^ len a)
include hin hd hf

/-- Slots inside the word, with pairwise disjoint bit ranges, whose values fit: a bit of a slot's range
comes from that slot alone. -/
theorem packWord_slot_bit {a : α} (ha : a ∈ l) {j : Nat} (hj : j < len a) :
    (packWord l pos val).getLsbD (pos a + j) = (val a).getLsbD j := by
  have hlen := hin a ha
  rw [packWord_bit _ _ _ _ (by omega)]
  rw [Bool.eq_iff_iff, List.any_eq_true]
  constructor
  · rintro ⟨a', ha', h⟩
    simp only [Bool.and_eq_true, decide_eq_true_eq] at h
    obtain ⟨hle, hb⟩ := h
    have hk : pos a + j - pos a' < len a' := by
      apply Decidable.byContradiction
      intro hge
      rw [bit_of_lt (hf a' ha') (by omega)] at hb
      cases hb
    by_cases he : a = a'
    · subst he
      rwa [Nat.add_sub_cancel_left] at hb
    · -- the ranges of two different slots are disjoint, whichever comes first in the list
      have := List.Pairwise.forall_of_forall_of_flip
        (R := fun a b => a ≠ b → pos a + len a ≤ pos b ∨ pos b + len b ≤ pos a) (fun _ _ hx => absurd rfl hx)
        (hd.imp fun {a b} c (_ : a ≠ b) => c) (hd.imp fun {a b} c (_ : b ≠ a) => c.symm) ha ha' he
      omega
  · intro h
    exact ⟨a, ha, by simp [h]⟩

/-- … so the slot's bits of the word are exactly the value its proxy read. -/
theorem packWord_field {a : α} (ha : a ∈ l) : fieldVal (packWord l pos val) (pos a) (len a) = val a := by
  have hlen := hin a ha
  apply BitVec.eq_of_getLsbD_eq
  intro j _
  rw [fieldVal_bit _ _ _ _ (by omega)]
  by_cases hj : j < len a
  · simp [hj, packWord_slot_bit hin hd hf ha hj]
  · simp [hj, bit_of_lt (hf a ha) (by omega : len a ≤ j)]

end

def Fits (rs : List RSlot) (s : RegFile) : Prop := ∀ r ∈ rs, (proxyGet r s).toNat < 2 ^ r.len

theorem getWordR_field {rs : List RSlot} {s : RegFile} (hok : WordOk rs) (hf : Fits rs s)
    {r : RSlot} (hr : r ∈ rs) : fieldVal (getWordR rs s) r.pos r.len = proxyGet r s :=
  packWord_field (fun a ha => (hok.slot a ha).1.2) (hok.compat.imp fun c => c.ranges) hf hr

/-! ### well-formedness -/

private theorem accE_get_lt (a : U64) : (((a >>> 32) &&& 0xF#64).setWidth 16 : U16).toNat < 2 ^ 4 := by
  rw [BitVec.toNat_setWidth, BitVec.toNat_and]
  exact Nat.lt_of_le_of_lt (Nat.mod_le _ _) (Nat.lt_succ_of_le Nat.and_le_right)

theorem fits_of_WF {rs : List RSlot} {s : RegFile} (hok : WordOk rs) (hw : WF s) : Fits rs s := by
  intro r hr
  have hso := (hok.slot r hr).2
  unfold proxyGet
  cases hk : r.kind <;> simp only [hk] at hso ⊢
  · rw [← hso.2]; exact hw.bits _ hso.1
  · rw [← hso.2]; exact hw.bits _ hso.1
  · rw [BitVec.toNat_or]
    apply Nat.or_lt_two_pow
    · rw [← hso.2.2.1]; exact hw.bits _ hso.1
    · rw [← hso.2.2.2]; exact hw.bits _ hso.2.1
  · rw [hso.2]; exact accE_get_lt _
  · rw [← hso.2.2]; exact hw.bits _ hso.1

/-- On a nibble, `SignExtend<4>` of common_types.h is sign extension from bit 3. -/
private theorem signExtend4_nibble {x : U16} (h : x.toNat < 16) :
    signExtend4 (x.setWidth 32) = (x.setWidth 4).signExtend 32 := by
  have e : x.setWidth 32 = (x.setWidth 4).setWidth 32 := by
    apply BitVec.eq_of_toNat_eq
    simp only [BitVec.toNat_setWidth]
    rw [Nat.mod_eq_of_lt (by omega : x.toNat < 2 ^ 4)]
  rw [e]
  exact (by decide +kernel : ∀ n : BitVec 4, signExtend4 (n.setWidth 32) = n.signExtend 32) _

/-- The accumulator value `AccEProxy::Set` leaves behind. -/
def accSet (a : U64) (x : U16) : U64 :=
  (a &&& 0xFFFFFFFF#64) ||| ((signExtend4 (x.setWidth 32)).setWidth 64 <<< 32)

theorem accSet_bit (a : U64) (x : U16) (i : Nat) (hi : i < 64) :
    (accSet a x).getLsbD i = if i < 32 then a.getLsbD i else (signExtend4 (x.setWidth 32)).getLsbD (i - 32) := by
  unfold accSet
  rw [BitVec.getLsbD_or, getLsbD_and_lowMask 32, BitVec.getLsbD_shiftLeft, BitVec.getLsbD_setWidth]
  by_cases h : i < 32
  · simp [h]
  · have : i - 32 < 64 := by omega
    simp [h, hi, this]

theorem accSet_signExt40 (a : U64) {x : U16} (h : x.toNat < 16) : SignExt40 (accSet a x) := by
  unfold SignExt40
  apply BitVec.eq_of_getLsbD_eq
  intro i hi
  rw [BitVec.getLsbD_signExtend]
  simp only [hi, decide_true, Bool.true_and]
  split
  · rename_i h40; simp [h40]
  · rename_i h40
    rw [BitVec.msb_eq_getLsbD_last]
    simp only [BitVec.getLsbD_setWidth, Nat.add_one_sub_one, Nat.lt_add_one, decide_true, Bool.true_and]
    rw [accSet_bit _ _ _ hi, accSet_bit _ _ _ (by omega), if_neg (by omega), if_neg (by omega),
      signExtend4_nibble h, BitVec.getLsbD_signExtend, BitVec.getLsbD_signExtend]
    simp [show ¬ i - 32 < 4 by omega, show i - 32 < 32 by omega]

theorem accSet_get (a : U64) {x : U16} (h : x.toNat < 16) :
    (((accSet a x) >>> 32) &&& 0xF#64).setWidth 16 = x := by
  apply BitVec.eq_of_getLsbD_eq
  intro i hi
  rw [BitVec.getLsbD_setWidth, getLsbD_and_lowMask 4, BitVec.getLsbD_ushiftRight, accSet_bit _ _ _ (by omega),
    if_neg (by omega), Nat.add_sub_cancel_left, signExtend4_nibble h, BitVec.getLsbD_signExtend,
    BitVec.getLsbD_setWidth]
  by_cases h4 : i < 4
  · simp [h4, hi, show i < 32 by omega]
  · simp [h4, bit_of_lt (n := 4) h (Nat.le_of_not_lt h4)]

theorem accSet_low (a : U64) (x : U16) : (accSet a x) &&& 0xFFFFFFFF#64 = a &&& 0xFFFFFFFF#64 := by
  apply BitVec.eq_of_getLsbD_eq
  intro i hi
  rw [getLsbD_and_lowMask 32, getLsbD_and_lowMask 32, accSet_bit _ _ _ hi]
  by_cases h : i < 32 <;> simp [h]

theorem getA_proxySet (r : RSlot) (x : U16) (s : RegFile) (i : Nat) (hi : i < 2) :
    (proxySet r x s).getA i = if r.kind = .accE ∧ r.c1 = i then accSet (s.getA i) x else s.getA i := by
  unfold proxySet
  cases hk : r.kind <;> simp only
  · simp [getA_setC]
  · simp
  · simp [getA_setC]
  · simp only [true_and]
    rw [getA_setA _ _ _ _ hi]
    split
    · rename_i h; subst h; rfl
    · rfl
  · simp only [reduceCtorEq, false_and, if_false]
    split <;> simp [getA_setC]

/-- What a slot assigns fits the assigned cell when the value fits the slot (`SlotOk`: the slot is as
wide as its members; `LPRedirector` assigns zeros). -/
theorem assigned_fits {r : RSlot} {x : U16} (hok : SlotOk r) (hx : x.toNat < 2 ^ r.len) {c : Nat}
    (h : c ∈ (assigned r x).1) : (assigned r x).2.toNat < 2 ^ cellBits c := by
  have hok := hok.2
  unfold assigned at h ⊢
  cases hk : r.kind <;> simp only [hk, List.mem_cons, List.not_mem_nil, or_false] at hok h ⊢
  · rw [h, hok.2]; exact hx
  · rcases h with rfl | rfl
    · rw [hok.2.2.1]; exact hx
    · rw [hok.2.2.2]; exact hx
  · exact Nat.two_pow_pos _

theorem proxySet_WF {r : RSlot} {x : U16} {s : RegFile} (hw : WF s) (hok : SlotOk r)
    (hx : x.toNat < 2 ^ r.len) : WF (proxySet r x s) := by
  have hsz : Sized (proxySet r x s) := by unfold Sized; rw [proxySet_size]; exact hw.sized
  have hacc := hok.accE
  have hA : ∀ i, i < 2 → SignExt40 (s.getA i) → SignExt40 ((proxySet r x s).getA i) := by
    intro i hi h0
    rw [getA_proxySet r x s i hi]
    split
    · rename_i h; exact accSet_signExt40 _ (by rw [(hacc h.1).2] at hx; exact hx)
    · exact h0
  refine ⟨hsz, fun c hc => ?_, hA 0 (by omega) hw.a0, hA 1 (by omega) hw.a1⟩
  rw [getC_proxySet]
  split
  · rename_i h; exact assigned_fits hok hx h.1
  · exact hw.bits c hc

theorem setWordR_WF {rs : List RSlot} {v : U16} {s : RegFile} (hw : WF s) (hok : WordOk rs) :
    WF (setWordR rs v s) := by
  induction rs generalizing s with
  | nil => exact hw
  | cons r rs ih =>
    rw [setWordR_cons]
    have hso := hok.slot _ List.mem_cons_self
    exact ih (proxySet_WF hw hso (fieldVal_lt _ _ _ (by have := hso.1; omega))) hok.tail

/-! ### accumulators through a whole word -/

theorem setWordR_acc_frame (rs : List RSlot) (v : U16) (s : RegFile) (i : Nat) (hi : i < 2)
    (h : ∀ r ∈ rs, r.kind = .accE → r.c1 ≠ i) : (setWordR rs v s).getA i = s.getA i := by
  induction rs generalizing s with
  | nil => rfl
  | cons r rs ih =>
    rw [setWordR_cons, ih _ (fun r' hr' => h r' (List.mem_cons_of_mem _ hr')), getA_proxySet _ _ _ _ hi]
    exact if_neg (fun hh => h r List.mem_cons_self hh.1 hh.2)

theorem setWordR_acc {rs : List RSlot} {v : U16} {s : RegFile} (hok : WordOk rs)
    {r : RSlot} (hr : r ∈ rs) (hk : r.kind = .accE) :
    (setWordR rs v s).getA r.c1 = accSet (s.getA r.c1) (fieldVal v r.pos r.len) := by
  have hi := ((hok.slot r hr).accE hk).1
  induction rs generalizing s with
  | nil => cases hr
  | cons r0 rs ih =>
    rw [setWordR_cons]
    rcases List.mem_cons.mp hr with rfl | hin
    · rw [setWordR_acc_frame _ _ _ _ hi fun b hb hbk => ((hok.head b hb).acc hk hbk).symm,
        getA_proxySet _ _ _ _ hi, if_pos ⟨hk, rfl⟩]
    · rw [ih hok.tail hin, getA_proxySet _ _ _ _ hi, if_neg fun h0 => (hok.head r hin).acc h0.1 hk h0.2]

/-- Kinds whose bits are plainly writable (`LPRedirector` is write-one-to-clear, `RO…` ignores). -/
def ProxyKind.writable : ProxyKind → Bool
  | .rw | .double | .accE => true
  | .ro | .lp => false

theorem proxyGet_after_set {rs : List RSlot} {v : U16} {s : RegFile} (hs : Sized s) (hok : WordOk rs)
    {r : RSlot} (hr : r ∈ rs) (hk : r.kind.writable = true) :
    proxyGet r (setWordR rs v s) = fieldVal v r.pos r.len := by
  have hso := hok.slot r hr
  have hset := setWordR_written (v := v) hs hok hr
  unfold proxyGet
  cases hkk : r.kind <;> simp only [hkk, ProxyKind.writable] at hk ⊢
  · simpa [assigned, hkk] using hset
  · cases hk
  · obtain ⟨h1, h2⟩ : _ ∧ _ := by simpa [assigned, hkk] using hset
    rw [h1, h2, BitVec.or_self]
  · rw [setWordR_acc hok hr hkk]
    exact accSet_get _ (fieldVal_nibble v r.pos (hso.accE hkk).2)
  · cases hk

/-! ## the generated table -/

/-- The slot list of word `name` of the generated table (`[]` if there is no such word). -/
def word (name : String) : List Slot := (layouts.lookup name).getD []

-- What follows uses `word n` only through membership facts evaluated once (`st0_mem`, `ar_slots`, …).
-- Left reducible, it is looked up in the table each time `(n, word n).2` is unified with `word n`.
attribute [local irreducible] word

/-- **The one evaluation of the checker over the generated table.** -/
theorem layouts_ok_all : layouts.all (fun w => wordOk (w.2.map resolve)) = true := by decide +kernel

theorem layouts_ok {w : String × List Slot} (hw : w ∈ layouts) : WordOk (w.2.map resolve) :=
  of_decide_eq_true (List.all_eq_true.mp layouts_ok_all w hw)

theorem resolve_kind (sl : Slot) : (resolve sl).kind = sl.kind := by
  unfold resolve; cases sl.kind <;> rfl
theorem resolve_pos (sl : Slot) : (resolve sl).pos = sl.pos := by
  unfold resolve; cases sl.kind <;> rfl
theorem resolve_len (sl : Slot) : (resolve sl).len = sl.len := by
  unfold resolve; cases sl.kind <;> rfl

theorem mem_resolve {slots : List Slot} {sl : Slot} (h : sl ∈ slots) : resolve sl ∈ slots.map resolve :=
  List.mem_map.mpr ⟨sl, h, rfl⟩

/-- The 19 architectural words, in header order. -/
theorem layouts_names : layouts.map (·.1) =
    ["cfgi", "cfgj", "stt0", "stt1", "stt2", "mod0", "mod1", "mod2", "mod3", "st0", "st1", "st2", "icr",
     "ar0", "ar1", "arp0", "arp1", "arp2", "arp3"] := by decide +kernel

/-- The hand-written member table (names, array sizes) is exactly the list of `u16` members of
`struct RegisterState` found in the header (so `WF`, the driver's dump and the frame theorem range
over every `u16` member; `BlockRepeatFrame::lc` lives inside `bkrep_stack` and is no slot's target). -/
theorem fieldTable_covers_state :
    fieldTable.map (fun d => (d.name, d.count)) =
      (stateFields.filter (fun f => f.2.1 == "u16" && f.1 != "BlockRepeatFrame.lc")).map (fun f => (f.1, f.2.2)) := by
  decide +kernel

/-! ## C20 property theorems -/

/-- **slots_disjoint.**  In every word each slot lies inside the 16 bits (`pos + len ≤ 16`,
`1 ≤ len < 16` — the header's own `static_assert`s) and the masks of different slots are pairwise
disjoint (`NoOverlap<u16, ProxySlots::mask...>`). -/
theorem slots_disjoint : ∀ w ∈ layouts,
    (∀ sl ∈ w.2, 1 ≤ sl.len ∧ sl.len < 16 ∧ sl.pos + sl.len ≤ 16) ∧
    w.2.Pairwise (fun a b => slotMask a.pos a.len &&& slotMask b.pos b.len = 0#16) := by
  decide +kernel

/-- Union of the masks of the plainly writable slots (`Redirector`, `ArrayRedirector`,
`DoubleRedirector`, `AccEProxy`) of a word. -/
def writable (slots : List Slot) : U16 :=
  slots.foldl (fun acc sl => if sl.kind.writable then acc ||| slotMask sl.pos sl.len else acc) 0#16

theorem writable_bit (slots : List Slot) (hl : ∀ sl ∈ slots, sl.len ≤ 16) (i : Nat) (hi : i < 16) :
    (writable slots).getLsbD i =
      slots.any (fun sl => sl.kind.writable && (decide (sl.pos ≤ i) && decide (i < sl.pos + sl.len))) := by
  rw [writable, foldl_bit _ (fun sl => sl.kind.writable && (decide (sl.pos ≤ i) && decide (i < sl.pos + sl.len)))]
  · simp
  · intro sl hsl acc
    cases sl.kind.writable
    · simp
    · rw [if_pos rfl, BitVec.getLsbD_or, slotMask_bit _ _ _ (hl sl hsl) hi, Bool.true_and]

/-- **set_preserves_WF.**  `Set` of any word with any value keeps the state well-formed. -/
theorem set_preserves_WF {w : String × List Slot} (hw : w ∈ layouts) (v : U16) {s : RegFile} (hs : WF s) :
    WF (setWord w.2 v s) := setWordR_WF hs (layouts_ok hw)

/-- A plain slot (`Redirector`, `ArrayRedirector`, `RORedirector`, `ArrayRORedirector`). -/
def Slot.plain (sl : Slot) : Bool := sl.kind == .rw || sl.kind == .ro

theorem proxyGet_plain {sl : Slot} (hp : sl.plain = true) (s : RegFile) :
    proxyGet (resolve sl) s = s.getF sl.field sl.index := by
  unfold Slot.plain at hp
  unfold proxyGet resolve getF
  cases hk : sl.kind <;> simp [hk] at hp ⊢

theorem getWord_slot {w : String × List Slot} (hw : w ∈ layouts) {sl : Slot} (hsl : sl ∈ w.2)
    {s : RegFile} (hs : WF s) : fieldVal (getWord w.2 s) sl.pos sl.len = proxyGet (resolve sl) s := by
  have hok := layouts_ok hw
  have := getWordR_field hok (fits_of_WF hok hs) (mem_resolve hsl)
  rwa [resolve_pos, resolve_len] at this

theorem get_set_slot {w : String × List Slot} (hw : w ∈ layouts) {sl : Slot} (hsl : sl ∈ w.2)
    (hk : sl.kind.writable = true) (v : U16) {s : RegFile} (hs : WF s) :
    fieldVal (getWord w.2 (setWord w.2 v s)) sl.pos sl.len = fieldVal v sl.pos sl.len := by
  rw [getWord_slot hw hsl (set_preserves_WF hw v hs)]
  have := proxyGet_after_set (v := v) hs.sized (layouts_ok hw) (mem_resolve hsl) (by rwa [resolve_kind])
  rwa [resolve_pos, resolve_len] at this

/-- **get_set.**  On a well-formed state, writing `v` to a word and reading the word back returns `v`
on every writable bit — for every word of the table, every `v` and every state.
(`WF` is needed: see `get_set_fails_without_WF`.) -/
theorem get_set {w : String × List Slot} (hw : w ∈ layouts) (v : U16) {s : RegFile} (hs : WF s) :
    getWord w.2 (setWord w.2 v s) &&& writable w.2 = v &&& writable w.2 := by
  have hlen : ∀ sl ∈ w.2, sl.len ≤ 16 := by
    intro sl hsl
    have := ((layouts_ok hw).slot _ (mem_resolve hsl)).1
    rw [resolve_len] at this; omega
  apply BitVec.eq_of_getLsbD_eq
  intro i hi
  rw [BitVec.getLsbD_and, BitVec.getLsbD_and, writable_bit _ hlen i hi]
  cases hany : w.2.any (fun sl => sl.kind.writable && (decide (sl.pos ≤ i) && decide (i < sl.pos + sl.len)))
  · simp
  · obtain ⟨sl, hsl, hc⟩ := List.any_eq_true.mp hany
    simp only [Bool.and_eq_true, decide_eq_true_eq] at hc
    obtain ⟨hk, hp1, hp2⟩ := hc
    have hb := congrArg (·.getLsbD (i - sl.pos)) (get_set_slot hw hsl hk v hs)
    simp only [fieldVal_bit _ _ _ _ (hlen sl hsl), Nat.add_sub_cancel' hp1] at hb
    simpa [Nat.sub_lt_left_of_lt_add hp1 hp2] using hb

/-- **Field view (read).**  On a well-formed state the bits `[pos, pos+len)` of a word read through
a plain slot are exactly the member's value. -/
theorem get_field {w : String × List Slot} (hw : w ∈ layouts) {sl : Slot} (hsl : sl ∈ w.2)
    (hp : sl.plain = true) {s : RegFile} (hs : WF s) :
    fieldVal (getWord w.2 s) sl.pos sl.len = s.getF sl.field sl.index := by
  rw [getWord_slot hw hsl hs, proxyGet_plain hp]

/-- **compat_same_field.**  A member visible (through plain slots) in two words — e.g. the
TeakLite-compatible `st0` and the Teak-native `mod0` — reads the same through both, for every pair of
words of the table and every well-formed state.  (Both slots then necessarily have the member's
hardware width, so no "same length" hypothesis is needed.) -/
theorem compat_same_field {w₁ w₂ : String × List Slot} (h₁ : w₁ ∈ layouts) (h₂ : w₂ ∈ layouts)
    {a b : Slot} (ha : a ∈ w₁.2) (hb : b ∈ w₂.2) (pa : a.plain = true) (pb : b.plain = true)
    (hf : a.field = b.field) (hi : a.index = b.index) {s : RegFile} (hs : WF s) :
    fieldVal (getWord w₁.2 s) a.pos a.len = fieldVal (getWord w₂.2 s) b.pos b.len := by
  rw [get_field h₁ ha pa hs, get_field h₂ hb pb hs, hf, hi]

theorem setWord_written {w : String × List Slot} (hw : w ∈ layouts) {sl : Slot} (hsl : sl ∈ w.2) (v : U16)
    {s : RegFile} (hs : Sized s) : ∀ c ∈ (assigned (resolve sl) (fieldVal v sl.pos sl.len)).1,
      (setWord w.2 v s).getC c = (assigned (resolve sl) (fieldVal v sl.pos sl.len)).2 := by
  have := setWordR_written (v := v) hs (layouts_ok hw) (mem_resolve hsl)
  rwa [resolve_pos, resolve_len] at this

/-- **Field view (write).**  After `Set`, the member behind an `rw` slot holds the slot's bits of `v`. -/
theorem set_field {w : String × List Slot} (hw : w ∈ layouts) {sl : Slot} (hsl : sl ∈ w.2)
    (hk : sl.kind = .rw) (v : U16) {s : RegFile} (hs : Sized s) :
    (setWord w.2 v s).getF sl.field sl.index = fieldVal v sl.pos sl.len := by
  simpa [assigned, resolve, hk, getF] using setWord_written hw hsl v hs

/-! ### the limit flag (`DoubleRedirector`) -/

/-- On a well-formed state a `DoubleRedirector` slot reads the OR of its two members. -/
theorem get_double {w : String × List Slot} (hw : w ∈ layouts) {sl : Slot} (hsl : sl ∈ w.2)
    (hk : sl.kind = .double) {s : RegFile} (hs : WF s) :
    fieldVal (getWord w.2 s) sl.pos sl.len = s.getF sl.field ||| s.getF sl.field2 := by
  rw [getWord_slot hw hsl hs]; simp [proxyGet, resolve, hk, getF]

/-- Writing a `DoubleRedirector` slot sets both members. -/
theorem set_double {w : String × List Slot} (hw : w ∈ layouts) {sl : Slot} (hsl : sl ∈ w.2)
    (hk : sl.kind = .double) (v : U16) {s : RegFile} (hs : Sized s) :
    (setWord w.2 v s).getF sl.field = fieldVal v sl.pos sl.len ∧
    (setWord w.2 v s).getF sl.field2 = fieldVal v sl.pos sl.len := by
  simpa [assigned, resolve, hk, getF] using setWord_written hw hsl v hs

theorem st0_mem : ("st0", word "st0") ∈ layouts := by decide +kernel
theorem stt0_mem : ("stt0", word "stt0") ∈ layouts := by decide +kernel
theorem st0_limit_slot : (⟨.double, "flm", 0, "fvl", 5, 1⟩ : Slot) ∈ word "st0" := by decide +kernel
theorem stt0_flm_slot : (⟨.rw, "flm", 0, "", 0, 1⟩ : Slot) ∈ word "stt0" := by decide +kernel
theorem stt0_fvl_slot : (⟨.rw, "fvl", 0, "", 1, 1⟩ : Slot) ∈ word "stt0" := by decide +kernel

/-- **st0_limit.**  Bit 5 of the TeakLite word `st0` is `flm | fvl` … -/
theorem st0_limit {s : RegFile} (hs : WF s) :
    fieldVal (getWord (word "st0") s) 5 1 = s.getF "flm" ||| s.getF "fvl" :=
  get_double st0_mem st0_limit_slot rfl hs

/-- … which is the OR of bits 0 and 1 of the Teak word `stt0` … -/
theorem st0_limit_stt0 {s : RegFile} (hs : WF s) :
    fieldVal (getWord (word "st0") s) 5 1 =
      fieldVal (getWord (word "stt0") s) 0 1 ||| fieldVal (getWord (word "stt0") s) 1 1 := by
  rw [st0_limit hs, get_field stt0_mem stt0_flm_slot rfl hs, get_field stt0_mem stt0_fvl_slot rfl hs]

/-- … and writing `st0` sets both limit flags to bit 5 of the written value. -/
theorem st0_limit_set (v : U16) {s : RegFile} (hs : Sized s) :
    (setWord (word "st0") v s).getF "flm" = fieldVal v 5 1 ∧
    (setWord (word "st0") v s).getF "fvl" = fieldVal v 5 1 :=
  set_double st0_mem st0_limit_slot rfl v hs

/-! ### frame -/

/-- The members `Set` may assign through a slot.  (`LPRedirector` names none in its template
arguments; its body assigns `lp` and `bcn`.) -/
def Slot.assigns (sl : Slot) : List (String × Nat) :=
  match sl.kind with
  | .rw => [(sl.field, sl.index)]
  | .double => [(sl.field, 0), (sl.field2, 0)]
  | .lp => [("lp", 0), ("bcn", 0)]
  | .ro | .accE => []

theorem targets_resolve (sl : Slot) : targets (resolve sl) = sl.assigns.map (fun p => cellOf p.1 p.2) := by
  unfold targets resolve Slot.assigns
  cases hk : sl.kind <;> rfl

theorem idxOf_inj {α : Type} [BEq α] [LawfulBEq α] {l : List α} {x y : α}
    (h : l.idxOf x = l.idxOf y) (hx : l.idxOf x < l.length) : x = y := by
  have h1 := List.getElem_idxOf hx
  have h2 := List.getElem_idxOf (h ▸ hx : l.idxOf y < l.length)
  rw [← h1, ← h2]
  congr 1

/-- Different members have different cells (for members that exist). -/
theorem cellOf_inj {a b : String} {i j : Nat} (h : cellOf a i = cellOf b j) (hlt : cellOf a i < nCells) :
    (a, i) = (b, j) := by
  unfold cellOf at h hlt
  exact idxOf_inj h hlt

/-- **set_frame.**  Every `u16` member that no slot of the word assigns is unchanged by `Set` — for
every word of the table, every value, every state (no hypothesis on the state). -/
theorem set_frame {w : String × List Slot} (hw : w ∈ layouts) (name : String) (idx : Nat)
    (h : ∀ sl ∈ w.2, (name, idx) ∉ sl.assigns) (v : U16) (s : RegFile) :
    (setWord w.2 v s).getF name idx = s.getF name idx := by
  have hok := layouts_ok hw
  unfold getF setWord
  apply setWordR_frame
  intro r hr hc
  obtain ⟨sl, hsl, rfl⟩ := List.mem_map.mp hr
  have hlt := targets_lt (hok.slot _ hr) hc
  rw [targets_resolve] at hc
  obtain ⟨p, hp, hpe⟩ := List.mem_map.mp hc
  have := cellOf_inj hpe (hpe ▸ hlt)
  exact h sl hsl (by rw [← this]; exact hp)

/-- **set_frame (accumulators).**  `a[i]` is unchanged unless the word has an `AccEProxy<i>` slot; the
other accumulators `b[]`, the products, `pc`, the loop stack … are not reachable from any proxy.
(True of any slot list, `setWordR_acc_frame`: `hw` is not used.) -/
theorem set_frame_acc {w : String × List Slot} (hw : w ∈ layouts) (i : Nat) (hi : i < 2)
    (h : ∀ sl ∈ w.2, sl.kind = .accE → sl.index ≠ i) (v : U16) (s : RegFile) :
    (setWord w.2 v s).getA i = s.getA i := by
  apply setWordR_acc_frame _ _ _ _ hi
  intro r hr hk
  obtain ⟨sl, hsl, rfl⟩ := List.mem_map.mp hr
  rw [resolve_kind] at hk
  have := h sl hsl hk
  simpa [resolve, hk] using this

/-! ### read-only slots -/

/-- **ro_unchanged.**  The member behind a read-only slot, and (on a well-formed state) the bits read
through it, are the same before and after `Set` — provided the write does not set the word's
`LPRedirector` bit, or the member is not `bcn`. (Writing one to the `lp` bit of `stt2`/`icr` clears
`bcn`, which the same word shows read-only: `ro_unchanged_literal_false`.) -/
theorem ro_unchanged {w : String × List Slot} (hw : w ∈ layouts) {sl : Slot} (hsl : sl ∈ w.2)
    (hk : sl.kind = .ro) (v : U16) (s : RegFile)
    (hlp : sl.field ≠ "bcn" ∨ ∀ l ∈ w.2, l.kind = .lp → fieldVal v l.pos l.len = 0#16) :
    (setWord w.2 v s).getF sl.field sl.index = s.getF sl.field sl.index ∧
    (WF s → fieldVal (getWord w.2 (setWord w.2 v s)) sl.pos sl.len = fieldVal (getWord w.2 s) sl.pos sl.len) := by
  have hok := layouts_ok hw
  have hmem : (setWord w.2 v s).getF sl.field sl.index = s.getF sl.field sl.index := by
    have hc1 : cellOf sl.field sl.index = (resolve sl).c1 := by simp [resolve, hk]
    unfold getF setWord
    rw [hc1]
    apply setWordR_frame_w
    intro r hr hy
    obtain ⟨b, hb, rfl⟩ := List.mem_map.mp hr
    have ht := assigned_subset hy
    obtain ⟨hbk, hbcn⟩ := hok.ro _ (mem_resolve hsl) _ hr ((resolve_kind sl).trans hk) ht
    rw [resolve_kind] at hbk
    rcases hlp with hlp | hlp
    · have hc2 : (resolve b).c2 = cellOf "bcn" 0 := by simp [resolve, hbk]
      rw [← hc1, hc2] at hbcn
      exact hlp (congrArg Prod.fst (cellOf_inj hbcn (hc1 ▸ targets_lt (hok.slot _ hr) ht)))
    · simp [assigned, resolve, hbk, hlp b hb hbk] at hy
  refine ⟨hmem, fun hs => ?_⟩
  have hp : sl.plain = true := by simp [Slot.plain, hk]
  rw [get_field hw hsl hp (set_preserves_WF hw v hs), get_field hw hsl hp hs, hmem]

/-! ### the loop flag (`LPRedirector`) -/

/-- **lp_write_one_to_clear.**  For every word with an `LPRedirector` slot (`stt2` bit 15, `icr`
bit 4): the bit reads `lp` (on a well-formed state); writing one clears `lp` **and** `bcn`; writing
zero leaves both unchanged. -/
theorem lp_write_one_to_clear {w : String × List Slot} (hw : w ∈ layouts) {sl : Slot} (hsl : sl ∈ w.2)
    (hk : sl.kind = .lp) (v : U16) {s : RegFile} (hs : Sized s) :
    (WF s → fieldVal (getWord w.2 s) sl.pos sl.len = s.getF "lp") ∧
    (fieldVal v sl.pos sl.len ≠ 0#16 →
      (setWord w.2 v s).getF "lp" = 0#16 ∧ (setWord w.2 v s).getF "bcn" = 0#16) ∧
    (fieldVal v sl.pos sl.len = 0#16 →
      (setWord w.2 v s).getF "lp" = s.getF "lp" ∧ (setWord w.2 v s).getF "bcn" = s.getF "bcn") := by
  refine ⟨fun hwf => ?_, fun hx => ?_, fun hx => ?_⟩
  · rw [getWord_slot hw hsl hwf]; simp [proxyGet, resolve, hk, getF]
  · simpa [assigned, resolve, hk, hx, getF] using setWord_written hw hsl v hs
  · simpa [setWord, targets, proxySet, resolve, hk, hx, getF] using
      fun c => setWordR_targets (v := v) (s := s) (layouts_ok hw) (mem_resolve hsl) (c := c)

/-! ### the accumulator extension nibble (`AccEProxy`) -/

/-- **accE_roundtrip.**  For every word with an `AccEProxy<i>` slot (`st0`: `a[0]`, `st1`: `a[1]`):
the slot reads bits 32..35 of `a[i]`; `Set` replaces bits 32..63 of `a[i]` by the sign extension of
the written nibble and keeps bits 0..31; the nibble reads back; the accumulator stays sign-extended
from bit 39. -/
theorem accE_roundtrip {w : String × List Slot} (hw : w ∈ layouts) {sl : Slot} (hsl : sl ∈ w.2)
    (hk : sl.kind = .accE) (v : U16) (s : RegFile) :
    (WF s → fieldVal (getWord w.2 s) sl.pos sl.len = (((s.getA sl.index) >>> 32) &&& 0xF#64).setWidth 16) ∧
    (setWord w.2 v s).getA sl.index = accSet (s.getA sl.index) (fieldVal v sl.pos sl.len) ∧
    (setWord w.2 v s).getA sl.index &&& 0xFFFFFFFF#64 = s.getA sl.index &&& 0xFFFFFFFF#64 ∧
    ((((setWord w.2 v s).getA sl.index) >>> 32) &&& 0xF#64).setWidth 16 = fieldVal v sl.pos sl.len ∧
    SignExt40 ((setWord w.2 v s).getA sl.index) := by
  have hok := layouts_ok hw
  have hr := mem_resolve hsl
  have hx : (fieldVal v sl.pos sl.len).toNat < 16 :=
    fieldVal_nibble v sl.pos (resolve_len sl ▸ ((hok.slot _ hr).accE ((resolve_kind sl).trans hk)).2)
  have hset : (setWord w.2 v s).getA sl.index = accSet (s.getA sl.index) (fieldVal v sl.pos sl.len) := by
    have := setWordR_acc (v := v) (s := s) hok hr ((resolve_kind sl).trans hk)
    unfold setWord
    simpa [resolve, hk] using this
  refine ⟨fun hwf => ?_, hset, ?_⟩
  · rw [getWord_slot hw hsl hwf]; simp [proxyGet, resolve, hk]
  · rw [hset]; exact ⟨accSet_low _ _, accSet_get _ hx, accSet_signExt40 _ hx⟩

/-! ### concrete witnesses -/

theorem getC_zero (c : Nat) : RegFile.zero.getC c = 0#16 := by
  unfold RegFile.zero getC
  rw [Array.getD_eq_getD_getElem?, Array.getElem?_replicate]
  split <;> rfl

theorem zero_WF : WF RegFile.zero :=
  ⟨by simp [Sized, RegFile.zero], fun c _ => by rw [getC_zero]; exact Nat.two_pow_pos _, by decide, by decide⟩

theorem setF_WF {s : RegFile} (hw : WF s) (name : String) (idx : Nat) (x : U16)
    (hx : x.toNat < 2 ^ cellBits (cellOf name idx)) : WF (s.setF name idx x) := by
  refine ⟨by unfold Sized setF; rw [size_setC]; exact hw.sized, fun c hc => ?_, hw.a0, hw.a1⟩
  unfold setF; rw [getC_setC]; split
  · rename_i h; rw [h.1]; exact hx
  · exact hw.bits c hc

theorem setA0_WF {s : RegFile} (hw : WF s) (a : U64) (ha : SignExt40 a) : WF { s with a0 := a } :=
  ⟨hw.sized, hw.bits, ha, hw.a1⟩

/-- a state in which the read-only user input pin `iu[0]` holds 0x10 (outside its 1-bit width) -/
def bleedState : RegFile := RegFile.zero.setF "iu" 0 0x10#16

/-- **Without `WF`, `get_set` fails.**  `PseudoRegister::Get` does not mask members: with
`iu[0] = 0x10` the read-only slot at bit 10 of `stt1` bleeds into bit 14 (`pe[0]`, writable):
writing 0 to `stt1` and reading it back gives 0x4000. -/
theorem get_set_fails_without_WF :
    ("stt1", word "stt1") ∈ layouts ∧ Sized bleedState ∧
    ¬ (bleedState.getF "iu" 0).toNat < 2 ^ cellBits (cellOf "iu" 0) ∧
    getWord (word "stt1") (setWord (word "stt1") 0#16 bleedState) = 0x4000#16 ∧
    getWord (word "stt1") (setWord (word "stt1") 0#16 bleedState) &&& writable (word "stt1")
      ≠ 0#16 &&& writable (word "stt1") := by decide +kernel

/-- `bcn = 3`, `lp = 1`: inside two nested block-repeat loops -/
def loopState : RegFile := (RegFile.zero.setF "bcn" 0 3#16).setF "lp" 0 1#16

theorem loopState_WF : WF loopState :=
  setF_WF (setF_WF zero_WF _ _ _ (by decide +kernel)) _ _ _ (by decide +kernel)

theorem loopState_stt2 : getWord (word "stt2") loopState = 0xB000#16 ∧
    getWord (word "stt2") (setWord (word "stt2") 0x8000#16 loopState) = 0#16 := by decide +kernel

/-- The literal reading of "`Set` leaves read-only bits unchanged". -/
def RoUnchangedLiteral : Prop :=
  ∀ w ∈ layouts, ∀ sl ∈ w.2, sl.kind = .ro → ∀ (v : U16) (s : RegFile), WF s →
    fieldVal (getWord w.2 (setWord w.2 v s)) sl.pos sl.len = fieldVal (getWord w.2 s) sl.pos sl.len

/-- **The literal statement is false on the unchanged code**: `stt2` shows `bcn` read-only in bits
12..14 and `lp` in bit 15; from `bcn = 3, lp = 1` (`stt2 = 0xB000`) writing `0x8000` clears both
(`stt2 = 0`): the read-only bits changed.  (`ro_unchanged` is the statement with this case excluded;
`lp_write_one_to_clear` describes it.) -/
theorem ro_unchanged_literal_false : ¬ RoUnchangedLiteral := by
  intro h
  have hmem : ("stt2", word "stt2") ∈ layouts := by decide +kernel
  have hsl : (⟨.ro, "bcn", 0, "", 12, 3⟩ : Slot) ∈ word "stt2" := by decide +kernel
  have := h _ hmem _ hsl rfl 0x8000#16 loopState loopState_WF
  rw [loopState_stt2.2, loopState_stt2.1] at this
  revert this
  decide

/-- `a[0] = 0x7F_0000_0000` (a well-formed positive 40-bit value) -/
def accState : RegFile := { RegFile.zero with a0 := 0x7F00000000#64 }

/-- **Writing back the value just read is not the identity for `st0`/`st1`**: the words expose only
the low nibble of the 8-bit accumulator extension, and `AccEProxy::Set` rebuilds bits 36..39 (and
up) from that nibble's sign.  From `a[0] = 0x7F_0000_0000`, `st0` reads `0xF000`; writing `0xF000`
back gives `a[0] = 0xFFFF_FFFF_0000_0000` (i.e. `-0x1_0000_0000`). -/
theorem accE_write_back_changes_acc :
    WF accState ∧ getWord (word "st0") accState = 0xF000#16 ∧
    (setWord (word "st0") 0xF000#16 accState).a0 = 0xFFFFFFFF00000000#64 ∧
    (setWord (word "st0") 0xF000#16 accState).a0 ≠ accState.a0 :=
  ⟨setA0_WF zero_WF _ (by decide), by decide +kernel, by decide +kernel, by decide +kernel⟩

/-! ## ar / arp: three decoders, one meaning -/

theorem fieldVal_fieldVal (v : U16) (p l q m : Nat) (hl : l ≤ 16) (hm : q + m ≤ l) :
    fieldVal (fieldVal v p l) q m = fieldVal v (p + q) m := by
  apply BitVec.eq_of_getLsbD_eq
  intro j _
  have hm16 : m ≤ 16 := by omega
  rw [fieldVal_bit _ _ _ _ hm16, fieldVal_bit _ _ _ _ hl, fieldVal_bit _ _ _ _ hm16, Nat.add_assoc]
  by_cases hj : j < m
  · simp [hj, show q + j < l by omega]
  · simp [hj]

theorem fieldVal_shift (v : U16) (p l q : Nat) (hl : l ≤ 16) :
    (fieldVal v p l) >>> q = fieldVal v (p + q) (l - q) := by
  apply BitVec.eq_of_getLsbD_eq
  intro j _
  rw [BitVec.getLsbD_ushiftRight, fieldVal_bit _ _ _ _ hl, fieldVal_bit _ _ _ _ (Nat.le_trans (Nat.sub_le l q) hl)]
  simp only [Nat.lt_sub_iff_add_lt', Nat.add_assoc]

private theorem and7_eq (x : U16) : x &&& 7#16 = fieldVal x 0 3 := by
  unfold fieldVal; rw [BitVec.ushiftRight_zero]; rfl
private theorem and31_eq (x : U16) : x &&& 31#16 = fieldVal x 0 5 := by
  unfold fieldVal; rw [BitVec.ushiftRight_zero]; rfl

/-- name of the `i`-th `ar` word, which holds the configuration of `ArRn`/`ArStep` operand values
`2 * i` and `2 * i + 1` -/
def arName (i : Nat) : String := if i = 0 then "ar0" else "ar1"
/-- name of the `arp` word of `ArpRn`/`ArpStep` operand value `i` -/
def arpName (i : Nat) : String := if i = 0 then "arp0" else if i = 1 then "arp1" else if i = 2 then "arp2" else "arp3"

/-- Where the generated table puts the interpreter's `arrn[k]`, `arstep[k]`, `aroffset[k]`. -/
theorem ar_slots : ∀ k, k < 4 →
    (arName (k / 2), word (arName (k / 2))) ∈ layouts ∧
    (⟨.rw, "arrn", k, "", 13 - 3 * (k % 2), 3⟩ : Slot) ∈ word (arName (k / 2)) ∧
    (⟨.rw, "arstep", k, "", 5 - 5 * (k % 2), 3⟩ : Slot) ∈ word (arName (k / 2)) ∧
    (⟨.rw, "aroffset", k, "", 5 - 5 * (k % 2) + 3, 2⟩ : Slot) ∈ word (arName (k / 2)) := by decide +kernel

/-- Where the generated table puts `arprni[k]`, `arprnj[k]`, `arpstepi/j[k]`, `arpoffseti/j[k]`. -/
theorem arp_slots : ∀ k, k < 4 →
    (arpName k, word (arpName k)) ∈ layouts ∧
    (⟨.rw, "arprni", k, "", 10, 2⟩ : Slot) ∈ word (arpName k) ∧
    (⟨.rw, "arprnj", k, "", 13, 2⟩ : Slot) ∈ word (arpName k) ∧
    (⟨.rw, "arpstepi", k, "", 0, 3⟩ : Slot) ∈ word (arpName k) ∧
    (⟨.rw, "arpoffseti", k, "", 3, 2⟩ : Slot) ∈ word (arpName k) ∧
    (⟨.rw, "arpstepj", k, "", 5, 3⟩ : Slot) ∈ word (arpName k) ∧
    (⟨.rw, "arpoffsetj", k, "", 8, 2⟩ : Slot) ∈ word (arpName k) := by decide +kernel

/-- `ConvertArStepAndOffset` on a 5-bit field: the step is its low three bits, the offset the two above. -/
theorem step_fieldVal (v : U16) (p : Nat) : Dsm.step (fieldVal v p 5) = fieldVal v p 3 := by
  rw [Dsm.step, and7_eq, fieldVal_fieldVal _ _ 5 0 3 (by decide) (by decide)]; rfl
theorem offset_fieldVal (v : U16) (p : Nat) : Dsm.offset (fieldVal v p 5) = fieldVal v (p + 3) 2 :=
  fieldVal_shift _ _ 5 3 (by decide)

theorem dsm_arRn (ar : Nat → U16) (k : Nat) : Dsm.arRn ar k = fieldVal (ar (k / 2)) (13 - 3 * (k % 2)) 3 := rfl
theorem gen_arRn (ar : Nat → U16) (k : Nat) : Gen.arRn ar k = Dsm.arRn ar k := rfl
theorem dsm_arStep (ar : Nat → U16) (k : Nat) :
    Dsm.step (Dsm.arStepWord ar k) = fieldVal (ar (k / 2)) (5 - 5 * (k % 2)) 3 := step_fieldVal _ _
theorem dsm_arOffset (ar : Nat → U16) (k : Nat) :
    Dsm.offset (Dsm.arStepWord ar k) = fieldVal (ar (k / 2)) (5 - 5 * (k % 2) + 3) 2 := offset_fieldVal _ _

theorem dsm_arpRni (arp : Nat → U16) (k : Nat) : Dsm.arpRni arp k = fieldVal (arp k) 10 2 := rfl
theorem dsm_arpRnj (arp : Nat → U16) (k : Nat) : Dsm.arpRnj arp k = fieldVal (arp k) 13 2 + 4#16 := rfl
theorem dsm_arpStepi (arp : Nat → U16) (k : Nat) : Dsm.step (Dsm.arpStepiWord arp k) = fieldVal (arp k) 0 3 := by
  rw [Dsm.arpStepiWord, and31_eq, step_fieldVal]
theorem dsm_arpOffseti (arp : Nat → U16) (k : Nat) : Dsm.offset (Dsm.arpStepiWord arp k) = fieldVal (arp k) 3 2 := by
  rw [Dsm.arpStepiWord, and31_eq, offset_fieldVal]
theorem dsm_arpStepj (arp : Nat → U16) (k : Nat) : Dsm.step (Dsm.arpStepjWord arp k) = fieldVal (arp k) 5 3 :=
  step_fieldVal _ _
theorem dsm_arpOffsetj (arp : Nat → U16) (k : Nat) : Dsm.offset (Dsm.arpStepjWord arp k) = fieldVal (arp k) 8 2 :=
  offset_fieldVal _ _

/-- The hand-written generator decoders are the expressions found in `src/test_generator.cpp`
(`GenSrc`, translated from source on every run; C `int` arithmetic on `Nat`). -/
theorem gen_matches_source (ar arp : Nat → U16) (mod2 : U16) (i : Nat) :
    (Gen.arRn ar i).toNat = GenSrc.arRn (fun j => (ar j).toNat) i ∧
    (Gen.arpRni arp i).toNat = GenSrc.arpRnA (fun j => (arp j).toNat) i ∧
    (Gen.arpRnj arp i).toNat = GenSrc.arpRnB (fun j => (arp j).toNat) i ∧
    (Gen.mod2M mod2 i).toNat = GenSrc.mod2M mod2.toNat i ∧
    (Gen.mod2Br mod2 i).toNat = GenSrc.mod2Br mod2.toNat i := by
  refine ⟨?_, ?_, ?_, ?_, ?_⟩
  · simp [Gen.arRn, GenSrc.arRn, BitVec.toNat_and, BitVec.toNat_ushiftRight]
  · simp [Gen.arpRni, GenSrc.arpRnA, BitVec.toNat_and, BitVec.toNat_ushiftRight]
  · simp only [Gen.arpRnj, GenSrc.arpRnB, BitVec.toNat_add, BitVec.toNat_and, BitVec.toNat_ushiftRight,
      BitVec.toNat_ofNat]
    have := @Nat.and_le_right ((arp i).toNat >>> 13) 3
    simp only [Nat.reducePow, Nat.reduceMod]
    omega
  · simp [Gen.mod2M, GenSrc.mod2M, BitVec.toNat_and, BitVec.toNat_ushiftRight]
  · simp [Gen.mod2Br, GenSrc.mod2Br, BitVec.toNat_and, BitVec.toNat_ushiftRight]

/-- **ar_decoders_agree (`ar0`/`ar1`).**  For every 16-bit value `v` written to the `ar` word that
holds operand value `k` (0..3): the register, step and offset the *interpreter* will use
(`arrn[k]`, `arstep[k]`, `aroffset[k]`, set by `Set<ar>` through the generated layout) are what the
*disassembler* prints from the raw word (`DsmArRn`, `DsmArStep` = `ConvertArStepAndOffset`) and the
register is the one the *test generator* points at test memory. -/
theorem ar_decoders_agree (k : Nat) (hk : k < 4) (v : U16) (ar : Nat → U16) (har : ar (k / 2) = v)
    {s : RegFile} (hs : Sized s) :
    (setWord (word (arName (k / 2))) v s).getF "arrn" k = Dsm.arRn ar k ∧
    Dsm.arRn ar k = Gen.arRn ar k ∧
    (Gen.arRn ar k).toNat = GenSrc.arRn (fun j => (ar j).toNat) k ∧
    (setWord (word (arName (k / 2))) v s).getF "arstep" k = Dsm.step (Dsm.arStepWord ar k) ∧
    (setWord (word (arName (k / 2))) v s).getF "aroffset" k = Dsm.offset (Dsm.arStepWord ar k) := by
  obtain ⟨hm, h1, h2, h3⟩ := ar_slots k hk
  subst har
  refine ⟨?_, rfl, (gen_matches_source ar ar 0 k).1, ?_, ?_⟩
  · rw [dsm_arRn]; exact set_field hm h1 rfl _ hs
  · rw [dsm_arStep]; exact set_field hm h2 rfl _ hs
  · rw [dsm_arOffset]; exact set_field hm h3 rfl _ hs

/-- **ar_decoders_agree (`arp0`..`arp3`).**  Likewise for the `arp` words: `arprni[k]`,
`arprnj[k] + 4` (the interpreter's `GetArpRnUnit`), `arpstepi/j[k]`, `arpoffseti/j[k]` against
`DsmArpRni`, `DsmArpRnj`, `DsmArpStepi/j` and the generator's two marked registers. -/
theorem arp_decoders_agree (k : Nat) (hk : k < 4) (v : U16) (arp : Nat → U16) (harp : arp k = v)
    {s : RegFile} (hs : Sized s) :
    (setWord (word (arpName k)) v s).getF "arprni" k = Dsm.arpRni arp k ∧
    (setWord (word (arpName k)) v s).getF "arprnj" k + 4#16 = Dsm.arpRnj arp k ∧
    Dsm.arpRni arp k = Gen.arpRni arp k ∧ Dsm.arpRnj arp k = Gen.arpRnj arp k ∧
    (Gen.arpRni arp k).toNat = GenSrc.arpRnA (fun j => (arp j).toNat) k ∧
    (Gen.arpRnj arp k).toNat = GenSrc.arpRnB (fun j => (arp j).toNat) k ∧
    (setWord (word (arpName k)) v s).getF "arpstepi" k = Dsm.step (Dsm.arpStepiWord arp k) ∧
    (setWord (word (arpName k)) v s).getF "arpoffseti" k = Dsm.offset (Dsm.arpStepiWord arp k) ∧
    (setWord (word (arpName k)) v s).getF "arpstepj" k = Dsm.step (Dsm.arpStepjWord arp k) ∧
    (setWord (word (arpName k)) v s).getF "arpoffsetj" k = Dsm.offset (Dsm.arpStepjWord arp k) := by
  obtain ⟨hm, h1, h2, h3, h4, h5, h6⟩ := arp_slots k hk
  have g := gen_matches_source arp arp 0 k
  subst harp
  refine ⟨?_, ?_, rfl, rfl, g.2.1, g.2.2.1, ?_, ?_, ?_, ?_⟩
  · rw [dsm_arpRni]; exact set_field hm h1 rfl _ hs
  · rw [dsm_arpRnj, set_field hm h2 rfl _ hs]
  · rw [dsm_arpStepi]; exact set_field hm h3 rfl _ hs
  · rw [dsm_arpOffseti]; exact set_field hm h4 rfl _ hs
  · rw [dsm_arpStepj]; exact set_field hm h5 rfl _ hs
  · rw [dsm_arpOffsetj]; exact set_field hm h6 rfl _ hs

/-- **ar_decoders_agree (read direction).**  On a well-formed state, decoding the words *read* from
the state (what `mov ar0, …`/the test verifier's dump shows) gives the interpreter's members back. -/
theorem ar_decoders_agree_read (k : Nat) (hk : k < 4) {s : RegFile} (hs : WF s) :
    let ar := fun i => getWord (word (arName i)) s
    let arp := fun i => getWord (word (arpName i)) s
    s.getF "arrn" k = Dsm.arRn ar k ∧ s.getF "arstep" k = Dsm.step (Dsm.arStepWord ar k) ∧
    s.getF "aroffset" k = Dsm.offset (Dsm.arStepWord ar k) ∧
    s.getF "arprni" k = Dsm.arpRni arp k ∧ s.getF "arprnj" k + 4#16 = Dsm.arpRnj arp k ∧
    s.getF "arpstepi" k = Dsm.step (Dsm.arpStepiWord arp k) ∧
    s.getF "arpoffseti" k = Dsm.offset (Dsm.arpStepiWord arp k) ∧
    s.getF "arpstepj" k = Dsm.step (Dsm.arpStepjWord arp k) ∧
    s.getF "arpoffsetj" k = Dsm.offset (Dsm.arpStepjWord arp k) := by
  intro ar arp
  obtain ⟨hm, h1, h2, h3⟩ := ar_slots k hk
  obtain ⟨hm', g1, g2, g3, g4, g5, g6⟩ := arp_slots k hk
  refine ⟨?_, ?_, ?_, ?_, ?_, ?_, ?_, ?_, ?_⟩
  · rw [dsm_arRn]; exact (get_field hm h1 rfl hs).symm
  · rw [dsm_arStep]; exact (get_field hm h2 rfl hs).symm
  · rw [dsm_arOffset]; exact (get_field hm h3 rfl hs).symm
  · rw [dsm_arpRni]; exact (get_field hm' g1 rfl hs).symm
  · rw [dsm_arpRnj]; exact congrArg (· + 4#16) (get_field hm' g2 rfl hs).symm
  · rw [dsm_arpStepi]; exact (get_field hm' g3 rfl hs).symm
  · rw [dsm_arpOffseti]; exact (get_field hm' g4 rfl hs).symm
  · rw [dsm_arpStepj]; exact (get_field hm' g5 rfl hs).symm
  · rw [dsm_arpOffsetj]; exact (get_field hm' g6 rfl hs).symm

/-- Where the table puts `m[i]` and `br[i]` in `mod2`. -/
theorem mod2_slots : ∀ i, i < 8 → ("mod2", word "mod2") ∈ layouts ∧
    (⟨.rw, "m", i, "", i, 1⟩ : Slot) ∈ word "mod2" ∧ (⟨.rw, "br", i, "", i + 8, 1⟩ : Slot) ∈ word "mod2" := by
  decide +kernel

/-- The generator's reading of the modulo / bit-reverse enables from a `mod2` word agrees with the
interpreter's `m[i]` / `br[i]` (it decides whether to bit-reverse the address it plants in `r[i]`). -/
theorem gen_mod2_agrees (i : Nat) (hi : i < 8) {s : RegFile} (hs : WF s) :
    Gen.mod2M (getWord (word "mod2") s) i = s.getF "m" i ∧
    Gen.mod2Br (getWord (word "mod2") s) i = s.getF "br" i := by
  obtain ⟨hm, h1, h2⟩ := mod2_slots i hi
  have e1 : ∀ w : U16, Gen.mod2M w i = fieldVal w i 1 := fun _ => rfl
  have e2 : ∀ w : U16, Gen.mod2Br w i = fieldVal w (i + 8) 1 := fun _ => rfl
  rw [e1, e2]
  exact ⟨get_field hm h1 rfl hs, get_field hm h2 rfl hs⟩

/-! ## non-vacuity -/

/-- `WF` is satisfiable by a non-trivial state (inside two nested loops) … -/
example : WF loopState := loopState_WF

/-- … on which `get_set` says something: all of `st0` is writable, and of `stt2` only `pcmhi`. -/
example : writable (word "st0") = 0xFFFF#16 ∧ writable (word "stt2") = 0x00C0#16 := by decide +kernel

example : getWord (word "st0") (setWord (word "st0") 0xA5C3#16 loopState) = 0xA5C3#16 := by decide +kernel

/-- `compat_same_field` has instances: `sat` is bit 0 of both `mod0` (Teak) and `st0` (TeakLite);
`page` is the low byte of `mod1` and `st1`; `ip[2]` is bit 2 of `stt2` but bit 13 of `st2`. -/
example : ("mod0", word "mod0") ∈ layouts ∧ (⟨.rw, "sat", 0, "", 0, 1⟩ : Slot) ∈ word "mod0" ∧
    (⟨.rw, "sat", 0, "", 0, 1⟩ : Slot) ∈ word "st0" ∧
    (⟨.rw, "page", 0, "", 0, 8⟩ : Slot) ∈ word "mod1" ∧ (⟨.rw, "page", 0, "", 0, 8⟩ : Slot) ∈ word "st1" ∧
    (⟨.ro, "ip", 2, "", 2, 1⟩ : Slot) ∈ word "stt2" ∧ (⟨.ro, "ip", 2, "", 13, 1⟩ : Slot) ∈ word "st2" := by
  decide +kernel

/-- The `LPRedirector` and `AccEProxy` theorems have instances. -/
example : (⟨.lp, "lp", 0, "bcn", 15, 1⟩ : Slot) ∈ word "stt2" ∧ (⟨.lp, "lp", 0, "bcn", 4, 1⟩ : Slot) ∈ word "icr" ∧
    (⟨.accE, "a", 0, "", 12, 4⟩ : Slot) ∈ word "st0" ∧ (⟨.accE, "a", 1, "", 12, 4⟩ : Slot) ∈ word "st1" := by
  decide +kernel

/-- Decoders on a concrete word: `ar0 = 0xB6D3` selects `r5`/`r5`… (`arrn[0] = 5`, step 6, offset 2). -/
example : Dsm.arRn (fun _ => 0xB6D3#16) 0 = 5#16 ∧ Dsm.step (Dsm.arStepWord (fun _ => 0xB6D3#16) 0) = 6#16 ∧
    Dsm.offset (Dsm.arStepWord (fun _ => 0xB6D3#16) 0) = 2#16 ∧
    Dsm.memARS (fun _ => 0xB6D3#16) 0 0 = "[%r5-1++2*]" := by decide +kernel

end Teakra.Regs
