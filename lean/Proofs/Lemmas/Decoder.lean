import Proofs.C01
/-!
# The decoder array

What the interpreter reads from the pre-computed array is what `decodeInstr` finds
(`decoderArray_getD`).  At most one entry of `instrTable` matches a word
(`instr_unique`), so the array holds at a word whatever entry matches it (`decoderArray_of_matches`).
An entry without rejectors matches its fixed bits plus anything below the lowest bit of its mask: a
family `base + k` is decided by one row of the table, the table is never searched.

Row numbers.  The proofs that say which entry an opcode family decodes to name the row by a literal (`instrTable[105]?`
in `C06Sys/SelfBranch`, `i := 107` and `113` in `C08Stack/Cycle`, `Fetches1.of_entry 153 …` in `C09/Decode`).  The
number is the position of the entry in `Generated/InstrTable.lean`, which is also its `idx` field and the first argument
of `dispatch`.  The `rfl`s that pick the row and read its fields hold for the table as `tools/gen_dispatch.py` emits it
from the present `decoder.h`; if the regenerated table is ordered differently they fail, the check reports the module as
not building, and the numbers are read off the new table.  Two ways to show that a word decodes to row `i`: for a family
`base + k` with `k` below the lowest bit of the mask, `InstrPat.matches_add` (as `fetches_rep_imm8` in `C09/Decode`); for a
word known by a masked value `w &&& m = v`, `and_submask` restricts that to the mask of the row and to each operand
field (as `decode_brrSelf` in `C06Sys/SelfBranch`).
-/
namespace Teakra
namespace Sys

theorem decoderArray_getD (w : Nat) (h : w < 0x10000) : decoderArray.getD w none = decodeInstr w := by
  unfold decoderArray
  have hs : w < ((Array.range 0x10000).map decodeInstr).size := by
    rw [Array.size_map, Array.size_range]; exact h
  rw [Array.getD_eq_getD_getElem?, Array.getElem?_eq_getElem hs, Array.getElem_map, Array.getElem_range]
  rfl

end Sys
open Sys

theorem and_submask {w m v : Nat} (h : w &&& m = v) (m' : Nat) (hm : m &&& m' = m') : w &&& m' = v &&& m' := by
  rw [← h, Nat.and_assoc, hm]

theorem and_of_add_low {e m k n : Nat} (hk : k < 2 ^ n) (he : e % 2 ^ n = 0) (hm : m % 2 ^ n = 0) :
    (e + k) &&& m = e &&& m := by
  obtain ⟨q, rfl⟩ := Nat.dvd_of_mod_eq_zero he
  have hkm : k &&& m = 0 := by
    rw [← Nat.mod_eq_of_lt (Nat.lt_of_le_of_lt Nat.and_le_left hk), Nat.and_mod_two_pow, hm, Nat.and_zero]
  rw [Nat.two_pow_add_eq_or_of_lt hk, Nat.and_or_distrib_right, hkm, Nat.or_zero]

theorem InstrPat.matches_add {p : InstrPat} {k : Nat} (n : Nat) (hk : k < 2 ^ n) (hr : p.rejectors = [])
    (he : p.expected % 2 ^ n = 0) (hm : p.mask % 2 ^ n = 0) (hs : p.expected &&& p.mask = p.expected) :
    p.matchesWord (p.expected + k) = true := by
  unfold InstrPat.matchesWord
  rw [and_of_add_low hk he hm, hs, hr]
  simp

theorem toNat_ofNat16 (n : Nat) (h : n < 65536) : (BitVec.ofNat 16 n).toNat = n := by
  rw [BitVec.toNat_ofNat]; exact Nat.mod_eq_of_lt h

theorem decoderArray_of_matches {p : InstrPat} {n : Nat} (hp : p ∈ instrTable) (hn : n < 0x10000)
    (hm : p.matchesWord n = true) : decoderArray.getD n none = some p :=
  (decoderArray_getD n hn).trans (decodeInstr_of_matches hp hn hm)

end Teakra
