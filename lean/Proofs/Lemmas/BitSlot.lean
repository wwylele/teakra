import TeakraModel.Apbp
/-!
# One getter slot of a bit-field cell (`bitSlot`, TeakraModel/Apbp.lean), bit by bit and under a mask
-/
namespace Teakra

theorem bitSlot_getLsbD (v : U16) (pos : Nat) (b : Bool) (j : Nat) (hp : pos < 16) :
    (bitSlot v pos b).getLsbD j = if j = pos then b else v.getLsbD j := by
  by_cases hj : j = pos
  · subst hj
    cases b <;> simp [bitSlot, hp]
  · by_cases hlt : j < 16
    · have : j - pos = 0 ↔ j < pos := by omega
      cases b <;> simp [bitSlot, hj, hlt, this] <;> omega
    · simp [hj, BitVec.getLsbD_of_ge _ _ (Nat.le_of_not_lt hlt)]

theorem bitSlot_getElem (v : U16) (pos : Nat) (b : Bool) (j : Nat) (hp : pos < 16) (hj : j < 16) :
    (bitSlot v pos b)[j] = if j = pos then b else v[j] := by
  rw [← BitVec.getLsbD_eq_getElem, bitSlot_getLsbD v pos b j hp, ← BitVec.getLsbD_eq_getElem]

theorem bitSlot_and (v m : U16) (pos : Nat) (b : Bool) (hp : pos < 16) (hm : m.getLsbD pos = false) :
    bitSlot v pos b &&& m = v &&& m := by
  apply BitVec.eq_of_getLsbD_eq
  intro j _
  rw [BitVec.getLsbD_and, BitVec.getLsbD_and, bitSlot_getLsbD v pos b j hp]
  by_cases hj : j = pos
  · subst hj; simp [hm]
  · simp [hj]

end Teakra
