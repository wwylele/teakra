import TeakraModel.Interp
/-!
# Reading and writing the register file: `toArray.getD`, `vset`, `getF` / `setF`

The model reads a vector register with `v.toArray.getD i 0` and writes it with `Interp.vset v i x`,
both total in the index; inside the bounds they are `v[i]` and `v.set i x`.  Writing back what was
read changes nothing, in or out of bounds: for a vector (`vset_getD_self`) and for a member addressed
by name through the accessors of the layout tables (`Regs.setF_getF`).
-/
namespace Teakra
open Interp

theorem toArray_getD {α : Type} {n : Nat} (v : Vector α n) (i : Nat) (h : i < n) (d : α) :
    v.toArray.getD i d = v[i] := by
  simp [Array.getD, h]

variable {n : Nat} (v : Vector U16 n) (i j : Nat) (x : U16)

theorem vset_eq (h : i < n) : vset v i x = v.set i x h := dif_pos h

theorem getElem_vset (hi : i < n) (hj : j < n) : (vset v i x)[j] = if i = j then x else v[j] := by
  rw [vset_eq v i x hi, Vector.getElem_set]

theorem getD_vset_self (h : i < n) : (vset v i x).toArray.getD i 0 = x := by
  rw [toArray_getD _ _ h, getElem_vset _ _ _ _ h h, if_pos rfl]

theorem getD_vset_ne (h : j ≠ i) : (vset v i x).toArray.getD j 0 = v.toArray.getD j 0 := by
  unfold vset
  split
  · rw [Vector.toArray_set, Array.getD_eq_getD_getElem?, Array.getElem?_set_ne _ (Ne.symm h),
      ← Array.getD_eq_getD_getElem?]
  · rfl

theorem vset_getD_self : vset v i (v.toArray.getD i 0) = v := by
  unfold vset
  split
  · next h => rw [toArray_getD _ _ h, Vector.set_getElem_self]
  · rfl

theorem Regs.setF_getF (r : Regs) (f : String) (i : Nat) : r.setF f i (r.getF f i) = r := by
  unfold Regs.setF
  -- `erw`: the value is `r.getF "name" i`, which only unfolding turns into `r.name.toArray.getD i 0`.
  split <;> first | erw [vset_getD_self] | rfl

end Teakra
