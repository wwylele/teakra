import TeakraModel.Basic
/-!
# A `do` step in `Except ε` (`R = Except Abort`, `Except Stop`, the loop's `Except ε`)

Inverting a successful or failed step, and comparing two binds through their continuations.
-/
namespace Teakra.Except
variable {ε α β : Type}

theorem bind_eq_ok {x : Except ε α} {f : α → Except ε β} {b : β} :
    x >>= f = .ok b ↔ ∃ a, x = .ok a ∧ f a = .ok b := by
  cases x with
  | error e => exact ⟨nofun, fun ⟨_, h, _⟩ => nomatch h⟩
  | ok a => exact ⟨fun h => ⟨a, rfl, h⟩, fun ⟨_, h, h'⟩ => by cases h; exact h'⟩

theorem map_eq_ok {x : Except ε α} {f : α → β} {b : β} :
    x.map f = .ok b ↔ ∃ a, x = .ok a ∧ f a = b := by
  cases x with
  | error e => exact ⟨nofun, fun ⟨_, h, _⟩ => nomatch h⟩
  | ok a => exact ⟨fun h => ⟨a, rfl, Except.ok.inj h⟩, fun ⟨_, h, h'⟩ => by cases h; exact congrArg _ h'⟩

theorem bind_eq_error {x : Except ε α} {f : α → Except ε β} {e : ε} :
    x >>= f = .error e ↔ x = .error e ∨ ∃ a, x = .ok a ∧ f a = .error e := by
  cases x with
  | error e' =>
    exact ⟨fun h => by cases h; exact .inl rfl, fun h => h.elim (fun h => by cases h; rfl) fun ⟨_, h, _⟩ => nomatch h⟩
  | ok a => exact ⟨fun h => .inr ⟨a, rfl, h⟩, fun h => h.elim nofun fun ⟨_, h, h'⟩ => by cases h; exact h'⟩

theorem map_eq_error {x : Except ε α} {f : α → β} {e : ε} : x.map f = .error e ↔ x = .error e := by
  cases x with
  | error e' => exact ⟨fun h => by cases h; rfl, fun h => by cases h; rfl⟩
  | ok a => exact ⟨nofun, nofun⟩

theorem bind_congr_ok {x : Except ε α} {f g : α → Except ε β} (h : ∀ a, x = .ok a → f a = g a) :
    x >>= f = x >>= g := by
  cases x with
  | error e => rfl
  | ok a => exact h a rfl

/-- Equality under an observation (`f` on the intermediate result, `g` on the final one) is a congruence for `>>=`. -/
theorem map_bind_congr {γ : Type} {x y : Except ε α} {f : α → β} {g : γ → β} {k k' : α → Except ε γ}
    (h : x.map f = y.map f)
    (hk : ∀ a b, x = .ok a → y = .ok b → f a = f b → (k a).map g = (k' b).map g) :
    (x >>= k).map g = (y >>= k').map g := by
  cases x <;> cases y <;> simp [Except.map] at h
  · rw [h]; rfl
  · exact hk _ _ rfl rfl h

end Teakra.Except
