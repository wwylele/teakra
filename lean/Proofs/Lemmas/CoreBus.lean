import Proofs.Lemmas.Exec
import Proofs.Lemmas.Emit
import Proofs.Lemmas.Bits
/-!
# The data bus seen from the core: `mem.DataWrite`, `mem.DataRead`, `PushPC`, `PopPC`

`Core.busWrite` / `Core.busRead` are `MemoryInterface::DataWrite` / `DataRead` as functions on the machine state (memory
word or MMIO register, the callbacks it triggers delivered through `Core.emit`); they neither read nor change the register
file.  `PushPC` is two such writes at `sp-1`, `sp-2` plus `sp -= 2`, `PopPC` two reads at `sp`, `sp+1` plus `sp += 2` and
`SetPC`.  On a stack in ordinary data memory (`OrdinaryAt`) they are plain memory accesses: the `_ordinary` lemmas.
-/
namespace Teakra
open Teakra Exec ExecLemmas Interp

/-! ## `mem.DataWrite`, `mem.DataRead` -/

def Core.busWrite (c : Core) (a v : U16) : Except Stop Core :=
  match c.bus.dataWrite a v false with
  | .ok (bus, evs, accs) => .ok (({ c with bus := bus, log := accs.reverse ++ c.log } : Core).emit evs)
  | .error e => .error (.abort e)

theorem dataWrite_run (a v : U16) (c : Core) :
    (dataWrite a v).run c = (c.busWrite a v >>= fun c' => .ok ((), c')) := by
  unfold dataWrite Core.busWrite
  rw [run_bind, run_get, except_ok_bind, fst_mk, snd_mk]
  cases c.bus.dataWrite a v false with
  | error e => rfl
  | ok r => rfl

theorem busWrite_setRegs (c : Core) (r : Regs) (a v : U16) :
    ({ c with regs := r } : Core).busWrite a v =
      (c.busWrite a v >>= fun c' => .ok { c' with regs := r }) := by
  unfold Core.busWrite
  show (match c.bus.dataWrite a v false with | .ok (bus, evs, accs) => _ | .error e => _) = _
  cases c.bus.dataWrite a v false with
  | error e => rfl
  | ok x => simp only [Core.emit_eq]; rfl

theorem busWrite_frame (c c' : Core) (a v : U16) (h : c.busWrite a v = .ok c') :
    c'.regs = c.regs ∧ c'.idle = c.idle := by
  unfold Core.busWrite at h
  cases hd : c.bus.dataWrite a v false with
  | error e => rw [hd] at h; cases h
  | ok x =>
    rw [hd] at h
    cases h
    rw [Core.emit_eq]
    exact ⟨rfl, rfl⟩

/-- An MMIO read can have side effects, hence the `Core` in the result. -/
def Core.busRead (c : Core) (a : U16) : Except Stop (U16 × Core) :=
  match c.bus.dataRead a false with
  | .ok (v, bus, evs, accs) =>
      .ok (v, ({ c with bus := bus, log := accs.reverse ++ c.log } : Core).emit evs)
  | .error e => .error (.abort e)

theorem dataRead_run (a : U16) (c : Core) : (dataRead a).run c = c.busRead a := by
  unfold dataRead Core.busRead
  rw [run_bind, run_get, except_ok_bind, fst_mk, snd_mk]
  cases c.bus.dataRead a false with
  | error e => rfl
  | ok r => rfl

theorem busRead_setRegs (c : Core) (r : Regs) (a : U16) :
    ({ c with regs := r } : Core).busRead a =
      (c.busRead a >>= fun x => .ok (x.1, { x.2 with regs := r })) := by
  unfold Core.busRead
  show (match c.bus.dataRead a false with | .ok (v, bus, evs, accs) => _ | .error e => _) = _
  cases c.bus.dataRead a false with
  | error e => rfl
  | ok x => simp only [Core.emit_eq]; rfl

/-! ## `PushPC` -/

/-- The two words `PushPC` pushes, in push order: with `cpc = 1` the high half first (so the low
half ends up on top of the stack), otherwise the low half first. -/
def pcWords (r : Regs) : U16 × U16 :=
  if r.cpc == 1 then ((r.pc >>> 16).setWidth 16, (r.pc &&& 0xFFFF).setWidth 16)
  else ((r.pc &&& 0xFFFF).setWidth 16, (r.pc >>> 16).setWidth 16)

theorem pcWords_cpc (r : Regs) :
    (r.cpc = 1 → pcWords r = ((r.pc >>> 16).setWidth 16, (r.pc &&& 0xFFFF).setWidth 16)) ∧
    (r.cpc ≠ 1 → pcWords r = ((r.pc &&& 0xFFFF).setWidth 16, (r.pc >>> 16).setWidth 16)) :=
  ⟨fun h => if_pos (beq_iff_eq.2 h), fun h => if_neg fun e => h (beq_iff_eq.1 e)⟩

/-- **`PushPC`, closed form**: two `pushWord`s of the halves of `pc` in the order selected by
`cpc`. -/
theorem pushPC_spec (c : Core) :
    pushPC.run c = (do pushWord (pcWords c.regs).1; pushWord (pcWords c.regs).2 : Exec Unit).run c := by
  unfold pushPC pcWords
  rw [run_bind, run_getRegs, except_ok_bind, fst_mk, snd_mk]
  split <;> rfl

theorem sub_one_sub_one (x : U16) : x - 1 - 1 = x - 2 := BitVec.sub_sub x 1 1

/-- The `_on` lemmas are stated for a state `{ c with regs := r }`, the form a preceding register
update leaves; `r := c.regs` gives the plain form by eta. -/
theorem pushWord_on (c : Core) (r : Regs) (v : U16) :
    (pushWord v).run { c with regs := r } =
      (c.busWrite (r.sp - 1) v >>= fun c' => .ok ((), { c' with regs := { r with sp := r.sp - 1 } })) := by
  unfold pushWord
  rw [run_bind, run_modifyRegs, except_ok_bind, snd_mk, run_bind, run_getRegs, except_ok_bind, dataWrite_run]
  show (({ c with regs := { r with sp := r.sp - 1 } } : Core).busWrite (r.sp - 1) v >>= _) = _
  rw [busWrite_setRegs]
  cases c.busWrite (r.sp - 1) v with
  | error e => rfl
  | ok c' => rfl

theorem pushPC_on (c : Core) (r : Regs) :
    pushPC.run { c with regs := r } =
      (do let c1 ← c.busWrite (r.sp - 1) (pcWords r).1
          let c2 ← c1.busWrite (r.sp - 2) (pcWords r).2
          .ok ((), { c2 with regs := { r with sp := r.sp - 2 } })) := by
  rw [pushPC_spec, run_bind]
  show (pushWord (pcWords r).1).run { c with regs := r } >>= _ = _
  rw [pushWord_on, bind_assoc]
  refine congrArg (_ >>= ·) (funext fun c1 => ?_)
  rw [except_ok_bind]
  show (pushWord (pcWords r).2).run { c1 with regs := { r with sp := r.sp - 1 } } = _
  rw [pushWord_on]
  show (c1.busWrite (r.sp - 1 - 1) _ >>= fun c' =>
    Except.ok ((), ({ c' with regs := { r with sp := r.sp - 1 - 1 } } : Core))) = _
  rw [sub_one_sub_one]

/-- **`PushPC`, bus level**: `mem.DataWrite(sp-1, w₁)`, `mem.DataWrite(sp-2, w₂)` and `sp -= 2`;
no other register changes. -/
theorem pushPC_run (c : Core) :
    pushPC.run c =
      (do let c1 ← c.busWrite (c.regs.sp - 1) (pcWords c.regs).1
          let c2 ← c1.busWrite (c.regs.sp - 2) (pcWords c.regs).2
          .ok ((), { c2 with regs := { c.regs with sp := c.regs.sp - 2 } })) :=
  pushPC_on c c.regs

/-! ## stack in ordinary data memory -/

/-- `a` is ordinary data memory on this bus: outside the MMIO window, the page registers pass the
`ASSERT`s of `ConvertDataAddress` (result `conv`), and the converted word is inside the shared
memory array. -/
structure OrdinaryAt (b : Bus) (a : U16) (conv : U32) : Prop where
  notMmio : b.miu.inMmioWindow a = false
  convert : b.miu.convert a = .ok conv
  inRange : Mem.inRange conv = true

/-- The index of the memory word a converted address selects. -/
def stackCell (conv : U32) : Nat := Mem.byteAddr conv / 2

theorem busWrite_ordinary (c : Core) (a v : U16) (conv : U32) (h : OrdinaryAt c.bus a conv) :
    c.busWrite a v =
      .ok { c with bus := { c.bus with mem := c.bus.mem.write (stackCell conv) v }
                   log := ⟨Mem.byteAddr conv, true, v⟩ :: c.log } := by
  unfold Core.busWrite Bus.dataWrite Mem.writeWord
  simp only [h.notMmio, h.convert, h.inRange, Bool.false_and, Bool.false_eq_true, if_false, if_true]
  rfl

theorem busRead_ordinary (c : Core) (a : U16) (conv : U32) (h : OrdinaryAt c.bus a conv) :
    c.busRead a =
      .ok (c.bus.mem.read (stackCell conv), { c with log := ⟨Mem.byteAddr conv, false, 0⟩ :: c.log }) := by
  unfold Core.busRead Bus.dataRead Mem.readWord
  simp only [h.notMmio, h.convert, h.inRange, Bool.false_and, Bool.false_eq_true, if_false, if_true]
  rfl

theorem OrdinaryAt.after_write {b : Bus} {a : U16} {conv : U32} (h : OrdinaryAt b a conv) (m : Mem) :
    OrdinaryAt { b with mem := m } a conv := ⟨h.notMmio, h.convert, h.inRange⟩

/-! ## `PopPC` -/

theorem popWord_on (c : Core) (r : Regs) :
    popWord.run { c with regs := r } =
      (c.busRead r.sp >>= fun x => .ok (x.1, { x.2 with regs := { r with sp := r.sp + 1 } })) := by
  unfold popWord
  rw [run_bind, run_getRegs, except_ok_bind, fst_mk, snd_mk, run_bind, run_modifyRegs, except_ok_bind,
    snd_mk, dataRead_run]
  show ({ c with regs := { r with sp := r.sp + 1 } } : Core).busRead r.sp = _
  rw [busRead_setRegs]

theorem add_one_add_one (x : U16) : x + 1 + 1 = x + 2 := BitVec.add_assoc x 1 1

/-- The program counter `PopPC` assembles from the two popped words (first popped, second
popped): with `cpc = 1` the first is the low half. -/
def popPcValue (cpc : U16) (w1 w2 : U16) : U32 :=
  if cpc == 1 then (w1.setWidth 32 : U32) ||| ((w2.setWidth 32 : U32) <<< 16)
  else (w2.setWidth 32 : U32) ||| ((w1.setWidth 32 : U32) <<< 16)

theorem pc_of_halves (pc : U32) :
    (((pc &&& 0xFFFF).setWidth 16 : U16).setWidth 32 : U32) |||
      ((((pc >>> 16).setWidth 16 : U16).setWidth 32 : U32) <<< 16) = pc := by
  rw [BitVec.or_comm]; exact join16_32 pc

theorem popTwo_run {β : Type} (K : U16 → U16 → Exec β) (c : Core) :
    StateT.run (do let a ← popWord; let b ← popWord; K a b) c =
      (do let x1 ← c.busRead c.regs.sp
          let x2 ← x1.2.busRead (c.regs.sp + 1)
          (K x1.1 x2.1).run { x2.2 with regs := { c.regs with sp := c.regs.sp + 2 } }) := by
  rw [run_bind, show popWord.run c = _ from popWord_on c c.regs, bind_assoc]
  refine congrArg (_ >>= ·) (funext fun x1 => ?_)
  rw [except_ok_bind, run_bind, popWord_on, bind_assoc]
  refine congrArg (_ >>= ·) (funext fun x2 => ?_)
  rw [except_ok_bind, add_one_add_one]

theorem run_setPC (v : U32) (c : Core) :
    (setPC v).run c =
      if v.toNat < 0x40000 then .ok ((), { c with regs := { c.regs with pc := v } }) else .error (.abort .assert) := by
  unfold setPC
  by_cases h : v.toNat < 0x40000
  · rw [if_pos h, decide_eq_true h, run_bind, run_assert_true, except_ok_bind, run_modifyRegs]
  · rw [if_neg h, decide_eq_false h, run_bind, run_assert_false, except_error_bind]

/-- **`PopPC`, bus level**: `mem.DataRead(sp)`, `mem.DataRead(sp+1)`, `sp += 2`, then `SetPC` of
the assembled value (which `ASSERT`s `pc < 0x40000`). -/
theorem popPC_run (c : Core) :
    popPC.run c =
      (do let x1 ← c.busRead c.regs.sp
          let x2 ← x1.2.busRead (c.regs.sp + 1)
          if (popPcValue c.regs.cpc x1.1 x2.1).toNat < 0x40000 then
            .ok ((), { x2.2 with regs := { c.regs with sp := c.regs.sp + 2,
                                                       pc := popPcValue c.regs.cpc x1.1 x2.1 } })
          else .error (.abort .assert)) := by
  unfold popPC popPcValue
  rw [run_bind, run_getRegs, except_ok_bind, fst_mk, snd_mk, run_have, run_ite, popTwo_run, popTwo_run]
  -- the two orders differ only in which popped word is the low half
  cases c.regs.cpc == 1
  all_goals
    refine congrArg (_ >>= ·) (funext fun x1 => congrArg (_ >>= ·) (funext fun x2 => ?_))
    exact run_setPC _ _

/-! ## `pushWord` / `popWord` on an ordinary stack -/

def pushed1 (c : Core) (conv : U32) (v : U16) : Core :=
  { c with regs := { c.regs with sp := c.regs.sp - 1 }
           bus := { c.bus with mem := c.bus.mem.write (stackCell conv) v }
           log := ⟨Mem.byteAddr conv, true, v⟩ :: c.log }

def popped1 (c : Core) (conv : U32) : Core :=
  { c with regs := { c.regs with sp := c.regs.sp + 1 }
           log := ⟨Mem.byteAddr conv, false, 0⟩ :: c.log }

/-- After a push the slot `sp - 2` is the one the next push writes. -/
theorem OrdinaryAt.after_push {c : Core} {a2 : U32} (h : OrdinaryAt c.bus (c.regs.sp - 2) a2) (a1 : U32) (w : U16) :
    OrdinaryAt (pushed1 c a1 w).bus ((pushed1 c a1 w).regs.sp - 1) a2 := by
  show OrdinaryAt _ (c.regs.sp - 1 - 1) a2
  rw [sub_one_sub_one]; exact h.after_write _

theorem pushWord_ordinary (c : Core) (v : U16) (conv : U32) (h : OrdinaryAt c.bus (c.regs.sp - 1) conv) :
    (pushWord v).run c = .ok ((), pushed1 c conv v) := by
  rw [show (pushWord v).run c = _ from pushWord_on c c.regs v, busWrite_ordinary c _ v conv h]
  rfl

theorem popWord_ordinary (c : Core) (conv : U32) (h : OrdinaryAt c.bus c.regs.sp conv) :
    popWord.run c = .ok (c.bus.mem.read (stackCell conv), popped1 c conv) := by
  rw [show popWord.run c = _ from popWord_on c c.regs, busRead_ordinary c _ conv h]
  rfl

/-! ## two words, `PushPC` on an ordinary stack -/

def pushed2 (c : Core) (a1 a2 : U32) (w1 w2 : U16) : Core :=
  { c with
    regs := { c.regs with sp := c.regs.sp - 2 }
    bus := { c.bus with mem := (c.bus.mem.write (stackCell a1) w1).write (stackCell a2) w2 }
    log := ⟨Mem.byteAddr a2, true, w2⟩ :: ⟨Mem.byteAddr a1, true, w1⟩ :: c.log }

theorem push2_run (c : Core) (w1 w2 : U16) (a1 a2 : U32)
    (h1 : OrdinaryAt c.bus (c.regs.sp - 1) a1) (h2 : OrdinaryAt c.bus (c.regs.sp - 2) a2) :
    (do pushWord w1; pushWord w2 : Exec Unit).run c = .ok ((), pushed2 c a1 a2 w1 w2) := by
  rw [run_bind, pushWord_ordinary c w1 a1 h1, except_ok_bind, pushWord_ordinary _ w2 a2 (h2.after_push a1 w1)]
  show Except.ok ((), ({ c with regs := { c.regs with sp := c.regs.sp - 1 - 1 }, bus := _, log := _ } : Core)) = _
  rw [sub_one_sub_one]
  rfl

def pushedPC (c : Core) (a1 a2 : U32) : Core :=
  { c with
    regs := { c.regs with sp := c.regs.sp - 2 }
    bus := { c.bus with mem := (c.bus.mem.write (stackCell a1) (pcWords c.regs).1).write
                                  (stackCell a2) (pcWords c.regs).2 }
    log := ⟨Mem.byteAddr a2, true, (pcWords c.regs).2⟩ ::
           ⟨Mem.byteAddr a1, true, (pcWords c.regs).1⟩ :: c.log }

theorem pushPC_ordinary (c : Core) (a1 a2 : U32)
    (h1 : OrdinaryAt c.bus (c.regs.sp - 1) a1) (h2 : OrdinaryAt c.bus (c.regs.sp - 2) a2) :
    pushPC.run c = .ok ((), pushedPC c a1 a2) := by
  rw [pushPC_spec]
  exact push2_run c _ _ a1 a2 h1 h2

end Teakra
