import TeakraModel.Alu
/-!
# Bit-level facts shared by the proofs: low masks, halves of a word

`x &&& (2^k - 1)` keeps the bits below `k`; the numeric masks of the C++ source (`0xFFFF`,
`0xFFFFFFFF`, …) are instances.
-/
namespace Teakra

/-- `2^k - 1` as a word.  Only `k = 16` overflows 16 bits, and there the subtraction wraps to `0xFFFF`. -/
theorem toNat_two_pow_sub_one {x : U16} {k : Nat} (hk : k ≤ 16) (hx : x.toNat = 2 ^ k % 2 ^ 16) :
    (x - 1).toNat = 2 ^ k - 1 := by
  have hp : 0 < 2 ^ k := Nat.two_pow_pos k
  have h1 : (1 : U16).toNat = 1 := rfl
  rw [BitVec.toNat_sub, hx, h1]
  rcases Nat.lt_or_eq_of_le (Nat.pow_le_pow_right (by decide : 0 < 2) hk) with h | h
  · rw [Nat.mod_eq_of_lt h]; omega
  · rw [h]

theorem getLsbD_and_lowMask {w : Nat} (k : Nat) (x : BitVec w) (i : Nat) :
    (x &&& BitVec.ofNat w (2 ^ k - 1)).getLsbD i = (x.getLsbD i && decide (i < k)) := by
  rw [BitVec.getLsbD_and, BitVec.getLsbD_ofNat, Nat.testBit_two_pow_sub_one]
  by_cases h : i < w
  · simp [h]
  · rw [BitVec.getLsbD_of_ge x i (by omega)]; simp

theorem and_mask32_bit64 (x : U64) (i : Nat) : (x &&& 0xFFFFFFFF).getLsbD i = (x.getLsbD i && decide (i < 32)) :=
  getLsbD_and_lowMask 32 x i

/-- The same with the mask in the form `simp` leaves it in. -/
theorem and_mask32_bit64' (x : U64) (i : Nat) :
    (x &&& ((4294967295 : Nat) : U64)).getLsbD i = (x.getLsbD i && decide (i < 32)) :=
  getLsbD_and_lowMask 32 x i

theorem and_mask16_bit64 (x : U64) (i : Nat) : (x &&& 0xFFFF).getLsbD i = (x.getLsbD i && decide (i < 16)) :=
  getLsbD_and_lowMask 16 x i

theorem and_mask4_bit64 (x : U64) (i : Nat) : (x &&& 0xF).getLsbD i = (x.getLsbD i && decide (i < 4)) :=
  getLsbD_and_lowMask 4 x i

theorem and_mask8_bit16 (x : U16) (i : Nat) : (x &&& 0xFF).getLsbD i = (x.getLsbD i && decide (i < 8)) :=
  getLsbD_and_lowMask 8 x i

theorem join16 {w : Nat} (hw : 32 ≤ w) (x : U32) :
    ((((x >>> 16).setWidth 16 : U16).setWidth w) <<< 16) |||
      (((x &&& 0xFFFF).setWidth 16 : U16).setWidth w) = x.setWidth w := by
  have hm : ∀ i, (x &&& 0xFFFF).getLsbD i = (x.getLsbD i && decide (i < 16)) := getLsbD_and_lowMask 16 x
  apply BitVec.eq_of_getLsbD_eq
  intro i hi
  simp only [BitVec.getLsbD_or, BitVec.getLsbD_setWidth, hm, BitVec.getLsbD_shiftLeft,
    BitVec.getLsbD_ushiftRight]
  by_cases h : i < 16
  · simp [h, hi]
  · have e : 16 + (i - 16) = i := by omega
    by_cases h2 : i < 32
    · simp [h, hi, e, show i - 16 < 16 by omega, Nat.lt_of_lt_of_le (show i - 16 < 32 by omega) hw]
    · simp [h, hi, e, show ¬ (i - 16 < 16) by omega, BitVec.getLsbD_of_ge x i (by omega)]

theorem join16_32 (x : U32) :
    ((((x >>> 16).setWidth 16 : U16).setWidth 32 : U32) <<< 16) |||
      (((x &&& 0xFFFF).setWidth 16 : U16).setWidth 32 : U32) = x :=
  (join16 (Nat.le_refl 32) x).trans (BitVec.setWidth_eq x)

theorem join16_64 (x : U32) :
    ((((x >>> 16).setWidth 16 : U16).setWidth 64 : U64) <<< 16) |||
      (((x &&& 0xFFFF).setWidth 16 : U16).setWidth 64 : U64) = x.setWidth 64 :=
  join16 (by decide) x

theorem low32_setWidth (v : U64) : ((v &&& 0xFFFFFFFF).setWidth 32 : U32) = v.setWidth 32 := by
  apply BitVec.eq_of_getLsbD_eq
  intro i hi
  simp only [BitVec.getLsbD_setWidth, and_mask32_bit64]
  simp [hi]

theorem signExtend32_setWidth (x : U32) : Alu.signExtend 32 (x.setWidth 64) = x.signExtend 64 := by
  rw [Alu.signExtend, BitVec.setWidth_setWidth_of_le _ (by decide), BitVec.setWidth_eq]

end Teakra
