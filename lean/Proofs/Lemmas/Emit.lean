import TeakraModel.Core
/-!
# `Core.emit` only touches the interrupt latches and the event log

`Core.emit_eq`: the effect of a list of events on the core is a fold over the four latches alone,
plus the events appended to the log.  That `emit` commutes with any change of the other fields
(registers, bus, access log, `idle`) and leaves them alone then holds by `rfl` after rewriting
with it.
-/
namespace Teakra

/-- The interrupt latches of the core: all that an event leaving the bus can change besides the
event log. -/
structure Latches where
  ipend : Vector Bool 3
  vpend : Bool
  vctx : Bool
  vaddr : U32

def Core.latches (c : Core) : Latches := ⟨c.ipend, c.vpend, c.vctx, c.vaddr⟩

def Core.withLatches (c : Core) (l : Latches) : Core :=
  { c with ipend := l.ipend, vpend := l.vpend, vctx := l.vctx, vaddr := l.vaddr }

/-- `Core.signal` on the latches. -/
def Latches.signal (l : Latches) : PEvent → Latches
  | .irq i => if h : i < 3 then { l with ipend := l.ipend.set i true } else l
  | .virq addr ctx => { l with vaddr := addr, vpend := true, vctx := ctx }
  | _ => l

theorem emit_nil (c : Core) : c.emit [] = c := rfl

theorem Core.signal_eq (c : Core) (e : PEvent) : c.signal e = c.withLatches (c.latches.signal e) := by
  cases e with
  | irq i => by_cases h : i < 3 <;> simp only [Core.signal, Latches.signal, h, dite_true, dite_false] <;> rfl
  | _ => rfl

theorem Core.foldl_signal_eq (evs : List PEvent) (c : Core) :
    evs.foldl Core.signal c = c.withLatches (evs.foldl Latches.signal c.latches) := by
  induction evs generalizing c with
  | nil => rfl
  | cons e evs ih => rw [List.foldl_cons, ih, Core.signal_eq]; rfl

theorem Core.emit_eq (c : Core) (evs : List PEvent) :
    c.emit evs = { c.withLatches (evs.foldl Latches.signal c.latches) with events := evs.reverse ++ c.events } := by
  unfold Core.emit
  rw [Core.foldl_signal_eq]
  rfl

theorem Core.emit_ipend (c : Core) (evs : List PEvent) (l : Nat) (hl : l < 3) :
    (c.emit evs).ipend[l] = (c.ipend[l] || evs.contains (.irq l)) := by
  rw [Core.emit_eq]
  show (evs.foldl Latches.signal c.latches).ipend[l] = (c.latches.ipend[l] || _)
  generalize c.latches = s
  induction evs generalizing s with
  | nil => simp
  | cons e evs ih =>
    rw [List.foldl_cons, ih, List.contains_cons]
    cases e with
    | irq i =>
      by_cases hi : i = l
      · subst hi; simp [Latches.signal, hl]
      · have hne : (PEvent.irq l == PEvent.irq i) = false :=
          beq_eq_false_iff_ne.2 fun e => hi (by injection e with e; exact e.symm)
        by_cases h : i < 3 <;> simp [Latches.signal, h, hi, hne]
    | _ => rw [show (PEvent.irq l == _) = false from beq_eq_false_iff_ne.2 (by simp)]; simp [Latches.signal]

theorem Core.emit_append (c : Core) (l₁ l₂ : List PEvent) : c.emit (l₁ ++ l₂) = (c.emit l₁).emit l₂ := by
  rw [Core.emit_eq, Core.emit_eq, Core.emit_eq, List.foldl_append, List.reverse_append, List.append_assoc]
  rfl

theorem Core.emit_irqs_vec (c : Core) (is : List Nat) :
    (c.emit (is.map .irq)).vpend = c.vpend ∧ (c.emit (is.map .irq)).vaddr = c.vaddr ∧
    (c.emit (is.map .irq)).vctx = c.vctx := by
  rw [Core.emit_eq]
  show (_ : Latches).vpend = c.latches.vpend ∧ (_ : Latches).vaddr = c.latches.vaddr ∧
    (_ : Latches).vctx = c.latches.vctx
  generalize c.latches = s
  induction is generalizing s with
  | nil => exact ⟨rfl, rfl, rfl⟩
  | cons i is ih =>
    rw [List.map_cons, List.foldl_cons]
    have hs : (s.signal (.irq i)).vpend = s.vpend ∧ (s.signal (.irq i)).vaddr = s.vaddr ∧
        (s.signal (.irq i)).vctx = s.vctx := by
      by_cases h : i < 3 <;> simp [Latches.signal, h]
    obtain ⟨h1, h2, h3⟩ := ih (s.signal (.irq i))
    exact ⟨h1.trans hs.1, h2.trans hs.2.1, h3.trans hs.2.2⟩

/-- The list has the shape of `Icu.irqEvents` after `PEvent.ofIcu` (`irqEvents_ofIcu` in C07/Raise, the one use):
the enabled interrupt lines, then the vectored callback if it is enabled. -/
theorem Core.emit_irqs_virq (c : Core) (is : List Nat) (b : Bool) (a : U32) (x : Bool) :
    (c.emit (is.map .irq ++ if b then [.virq a x] else [])).vpend = (c.vpend || b) ∧
    (c.emit (is.map .irq ++ if b then [.virq a x] else [])).vaddr = (if b then a else c.vaddr) ∧
    (c.emit (is.map .irq ++ if b then [.virq a x] else [])).vctx = (if b then x else c.vctx) := by
  rw [Core.emit_append]
  obtain ⟨h1, h2, h3⟩ := c.emit_irqs_vec is
  cases b
  · rw [Bool.or_false]; exact ⟨h1, h2, h3⟩
  · rw [Bool.or_true]; exact ⟨rfl, rfl, rfl⟩

end Teakra
