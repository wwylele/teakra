import TeakraModel.Run
import Proofs.Lemmas.Vset
import Proofs.Lemmas.Except
/-!
# Evaluation lemmas for the `Exec` monad (`StateT Core (Except Stop)`)

Equations for `rw` / `simp only` that run a `do` block on a concrete state: `(p >>= f).run c`, `getRegs`,
`modifyRegs`, `pure`, `if`; the shapes the `do` notation elaborates to (join points, `let v ← if …`);
`ConditionPass` as a function of the register file.
-/
namespace Teakra
open Exec

abbrev Exec.exec {α : Type} (p : Exec α) (c : Core) : Except Stop (α × Core) := p.run c

theorem fst_mk {α β : Type} (a : α) (b : β) : (a, b).fst = a := rfl
theorem snd_mk {α β : Type} (a : α) (b : β) : (a, b).snd = b := rfl

namespace ExecLemmas

theorem run_pure {α : Type} (a : α) (c : Core) : (pure a : Exec α).run c = .ok (a, c) := rfl

theorem run_bind {α β : Type} (p : Exec α) (f : α → Exec β) (c : Core) :
    (p >>= f).run c = (p.run c) >>= fun r => (f r.1).run r.2 := by
  simp only [StateT.run_bind]

theorem except_ok_bind {ε α β : Type} (a : α) (f : α → Except ε β) :
    ((Except.ok a : Except ε α) >>= f) = f a := rfl

theorem except_error_bind {ε α β : Type} (e : ε) (f : α → Except ε β) :
    ((Except.error e : Except ε α) >>= f) = Except.error e := rfl

theorem run_getRegs (c : Core) : getRegs.run c = .ok (c.regs, c) := rfl

theorem run_get (c : Core) : (get : Exec Core).run c = .ok (c, c) := rfl

theorem run_modifyRegs (f : Regs → Regs) (c : Core) :
    (modifyRegs f).run c = .ok ((), { c with regs := f c.regs }) := rfl

theorem run_modify (f : Core → Core) (c : Core) :
    (modify f : Exec Unit).run c = .ok ((), f c) := rfl

theorem run_setRegs (r : Regs) (c : Core) :
    (setRegs r).run c = .ok ((), { c with regs := r }) := rfl

theorem run_ite {α : Type} (b : Prop) [Decidable b] (p q : Exec α) (c : Core) :
    (if b then p else q).run c = if b then p.run c else q.run c := by
  split <;> rfl

theorem run_assert_true (c : Core) : (Exec.assert true).run c = .ok ((), c) := rfl
theorem run_assert_false (c : Core) : (Exec.assert false).run c = .error (.abort .assert) := rfl
theorem run_unimpl {α : Type} (c : Core) : (Exec.unimpl : Exec α).run c = .error (.abort .unimpl) := rfl
theorem run_unreachable {α : Type} (c : Core) :
    (Exec.unreachable : Exec α).run c = .error (.abort .assert) := rfl

/-- What `do` makes of `if b then modifyRegs g` with a continuation `k`. -/
theorem run_ite_modifyRegs_bind {α : Type} (b : Prop) [Decidable b] (g : Regs → Regs) (k : Unit → Exec α) (c : Core) :
    (if b then modifyRegs g >>= k else k ()).run c = (k ()).run { c with regs := if b then g c.regs else c.regs } := by
  split <;> rfl

theorem run_getRegs_bind {α : Type} (k : Regs → Exec α) (c : Core) :
    (getRegs >>= k).run c = (k c.regs).run c := rfl

theorem run_modifyRegs_bind {α : Type} (g : Regs → Regs) (k : Unit → Exec α) (c : Core) (R : Regs) :
    (modifyRegs g >>= k).run { c with regs := R } = (k ()).run { c with regs := g R } := rfl

theorem run_ite_modifyRegs (b : Prop) [Decidable b] (g : Regs → Regs) (c : Core) :
    (if b then modifyRegs g else pure ()).run c = .ok ((), { c with regs := if b then g c.regs else c.regs }) := by
  split <;> rfl

/-- Inline the outermost join point / `let` of a `do` block (targeted zeta). -/
theorem run_have {α β : Type} (v : α) (f : α → Exec β) (c : Core) :
    StateT.run (have x := v; f x) c = StateT.run (f v) c := rfl

/-- `let v ← if b then x else pure d; K v` as the do-notation elaborates it (the continuation is a
join point called in both branches). -/
theorem run_ite_jp {α β γ : Type} (b : Bool) (x : Exec α) (y : α → Exec β) (d : β) (K : β → Exec γ) (c : Core) :
    StateT.run (if b = true then x >>= fun a => y a >>= K else K d) c =
      StateT.run (if b = true then x >>= y else pure d) c >>= fun e => (K e.1).run e.2 := by
  cases b
  · rfl
  · rw [if_pos rfl, if_pos rfl, run_bind, run_bind]
    cases x.run c with
    | error e => rfl
    | ok a => exact run_bind _ _ _

end ExecLemmas
open ExecLemmas Interp

theorem abort_bind {α β : Type} (e : Abort) (f : α → Exec β) : (Exec.abort e : Exec α) >>= f = Exec.abort e := rfl
theorem unreachable_bind {α β : Type} (f : α → Exec β) : (Exec.unreachable : Exec α) >>= f = Exec.unreachable := rfl

namespace Sys

/-- `RegisterState::ConditionPass` as a function of the registers.  The same function is spelled twice more:
`Interp.condHolds` (C03b, arguments swapped; `Interp.condHolds_eq_condVal`) and `Sys.condHolds` (TeakraModel/Sys.lean,
on a `Core` and the condition code as a `Nat`; `Sys.condHolds_eq` in C06Sys/SelfBranch). -/
def condVal (cv : CondValue) (r : Regs) : Bool :=
  match cv with
  | .true_ => true
  | .eq => r.fz == 1
  | .neq => r.fz == 0
  | .gt => r.fz == 0 && r.fm == 0
  | .ge => r.fm == 0
  | .lt => r.fm == 1
  | .le => r.fm == 1 || r.fz == 1
  | .nn => r.fn == 0
  | .c => r.fc0 == 1
  | .v => r.fv == 1
  | .e => r.fe == 1
  | .l => r.flm == 1 || r.fvl == 1
  | .nr => r.fr == 0
  | .niu0 => r.iu[0] == 0
  | .iu0 => r.iu[0] == 1
  | .iu1 => r.iu[1] == 1

theorem conditionPass_run (cv : CondValue) (c : Core) :
    (conditionPass cv).run c = .ok (condVal cv c.regs, c) := rfl

theorem condVal_congr (cv : CondValue) {r r' : Regs}
    (h : (r.fz, r.fm, r.fn, r.fc0, r.fv, r.fe, r.flm, r.fvl, r.fr, r.iu) =
      (r'.fz, r'.fm, r'.fn, r'.fc0, r'.fv, r'.fe, r'.flm, r'.fvl, r'.fr, r'.iu)) :
    condVal cv r = condVal cv r' := by
  simp only [Prod.mk.injEq] at h
  obtain ⟨h1, h2, h3, h4, h5, h6, h7, h8, h9, h10⟩ := h
  cases cv <;> simp only [condVal, *]

/-- `if (ConditionPass(cond)) { body }`, the shape of every conditional instruction. -/
theorem run_ifCond (cv : CondValue) (body : Exec Unit) (c : Core) :
    StateT.run (do if ← conditionPass cv then body) c =
      if condVal cv c.regs = true then body.run c else .ok ((), c) := by
  rw [run_bind, conditionPass_run, except_ok_bind, fst_mk, snd_mk]
  cases condVal cv c.regs <;> rfl

end Sys
end Teakra
