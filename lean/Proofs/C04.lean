import Proofs.C03
import Mathlib.Tactic.Linarith
/-!
# C04 — multiplier products and barrel-shifter results follow exact arithmetic

Value-level theorems about `Teakra.Alu.multiply`, `productToBus40`, `shiftCore`
(the pure parts of `DoMultiplication`, `ProductToBus40`, `ShiftBus40`).
-/
namespace Teakra.Alu

/-- The 33-bit two's-complement number held in `pe : p`. -/
def I33 (p : U32) (pe : U16) : Int := (p.toNat : Int) - (pe.toNat : Int) * 2 ^ 32

def factorX (xSign : Bool) (x : U16) : Int := if xSign then x.toInt else x.toNat

/-- The `y` factor after the `regs.hwm` branch at the head of `DoMultiplication` (`src/interpreter.h`): `y >>= 8` or
`y &= 0xFF`, chosen by the multiplier unit when `hwm = 3`. -/
def yHalf (y hwm : U16) (unit : Nat) : U16 :=
  if hwm == 1 || (hwm == 3 && unit == 0) then y >>> 8
  else if hwm == 2 || (hwm == 3 && unit == 1) then y &&& 0xFF else y

def factorY (ySign : Bool) (y hwm : U16) (unit : Nat) : Int :=
  if ySign then (yHalf y hwm unit).toInt else (yHalf y hwm unit).toNat

private theorem factor32_toInt (s : Bool) (v : U16) :
    ((if s then signExtend32 16 (v.setWidth 32) else v.setWidth 32 : U32)).toInt =
      if s then v.toInt else (v.toNat : Int) := by
  cases s
  · have := v.isLt
    rw [if_neg Bool.false_ne_true, if_neg Bool.false_ne_true, BitVec.toInt_eq_toNat_of_lt,
      BitVec.toNat_setWidth_of_le (by decide)]
    rw [BitVec.toNat_setWidth_of_le (by decide)]
    omega
  · rw [if_pos rfl, if_pos rfl, signExtend32, BitVec.setWidth_setWidth_of_le _ (by decide), BitVec.setWidth_eq]
    exact BitVec.toInt_signExtend_of_le (by decide)

private theorem yHalf_setWidth (y hwm : U16) (unit : Nat) :
    (let y32 : U32 := y.setWidth 32
     if hwm == 1 || (hwm == 3 && unit == 0) then y32 >>> 8
     else if hwm == 2 || (hwm == 3 && unit == 1) then y32 &&& 0xFF else y32) =
    (yHalf y hwm unit).setWidth 32 := by
  unfold yHalf
  rw [apply_ite (BitVec.setWidth 32), apply_ite (BitVec.setWidth 32), BitVec.setWidth_ushiftRight (by decide),
    BitVec.setWidth_and]
  rfl

/-- A 17-bit by 16-bit signed product fits 32 bits: `(2¹⁶ − 1) · 2¹⁵ < 2³¹`. -/
private theorem mul_fits32 (a b : Int) (ha : a.natAbs ≤ 65535) (hb : b.natAbs ≤ 32768) :
    -2147483648 ≤ a * b ∧ a * b < 2147483648 := by
  have : (a * b).natAbs ≤ 65535 * 32768 := by rw [Int.natAbs_mul]; exact Nat.mul_le_mul ha hb
  omega

theorem I33_msb (p : U32) : I33 p ((p >>> 31).setWidth 16) = p.toInt := by
  have := p.isLt
  rw [I33, BitVec.toInt_eq_toNat_cond, BitVec.toNat_setWidth, BitVec.toNat_ushiftRight, Nat.shiftRight_eq_div_pow]
  split <;> omega

/-- **The multiplier is exact.**  `pe : p` is the exact 33-bit product of the two 16-bit factors
under the instruction's signed/unsigned selection and the half-word mode. -/
theorem mul_exact (x y hwm : U16) (unit : Nat) (xSign ySign : Bool) :
    I33 (multiply x y hwm unit xSign ySign).1 (multiply x y hwm unit xSign ySign).2 =
      factorX xSign x * factorY ySign y hwm unit := by
  unfold multiply
  simp only []
  rw [yHalf_setWidth]
  unfold factorX factorY
  generalize yHalf y hwm unit = y'
  have hx := And.intro (BitVec.le_toInt x) (BitVec.toInt_lt (x := x))
  have hy := And.intro (BitVec.le_toInt y') (BitVec.toInt_lt (x := y'))
  have hxl := x.isLt
  have hyl := y'.isLt
  cases hs : xSign || ySign
  · -- both unsigned: the product is below 2^32 and pe is cleared
    obtain ⟨rfl, rfl⟩ := Bool.or_eq_false_iff.1 hs
    have : x.toNat * y'.toNat ≤ 65535 * 65535 := Nat.mul_le_mul (by omega) (by omega)
    simp only [Bool.false_eq_true, if_false, I33, BitVec.toNat_mul, BitVec.toNat_setWidth]
    rw [Nat.mod_eq_of_lt (a := x.toNat) (by omega), Nat.mod_eq_of_lt (a := y'.toNat) (by omega),
      Nat.mod_eq_of_lt (by omega)]
    simp
  · -- a signed factor: the product fits 32 bits signed, and pe is its sign
    rw [if_pos rfl, I33_msb, BitVec.toInt_mul, factor32_toInt, factor32_toInt]
    have hb : -2147483648 ≤ (if xSign then x.toInt else (x.toNat : Int)) * (if ySign then y'.toInt else (y'.toNat : Int)) ∧
        (if xSign then x.toInt else (x.toNat : Int)) * (if ySign then y'.toInt else (y'.toNat : Int)) < 2147483648 := by
      cases xSign
      · cases ySign
        · simp at hs
        · exact mul_fits32 _ _ (by simp only [Bool.false_eq_true, if_false]; omega) (by simp only [if_true]; omega)
      · rw [Int.mul_comm]
        exact mul_fits32 _ _ (by split <;> omega) (by simp only [if_true]; omega)
    exact Int.bmod_eq_of_le (by omega) (by omega)

/-! ## product read with shift (`ProductToBus40`) -/

theorem signExtend_toInt (bits : Nat) (v : U64) (h1 : 0 < bits) (h2 : bits ≤ 64) :
    (signExtend bits v).toInt =
      if 2 * (v.toNat % 2 ^ bits) < 2 ^ bits then ((v.toNat % 2 ^ bits : Nat) : Int)
      else ((v.toNat % 2 ^ bits : Nat) : Int) - 2 ^ bits := by
  rw [toInt_signExtend bits v h2, BitVec.toInt_eq_toNat_cond, BitVec.toNat_setWidth]
  split <;> simp

/-- A sign extension from `bits` bits, read as a number, is the one number of the signed `bits`-bit range that differs
from the operand by a multiple of `2 ^ bits`: for a literal width `omega` decides the right side. -/
theorem signExtend_toInt_iff (bits : Nat) (v : U64) (h : bits ≤ 64) (t : Int) :
    (signExtend bits v).toInt = t ↔
      -((2 ^ bits : Nat) / 2) ≤ t ∧ t < ((2 ^ bits : Nat) + 1) / 2 ∧ ((2 ^ bits : Nat) : Int) ∣ t - v.toNat := by
  rw [toInt_signExtend bits v h, BitVec.toInt_setWidth, Int.bmod_eq_iff (Nat.two_pow_pos bits)]

theorem signExtend_toNat (bits : Nat) (v : U64) (h1 : 0 < bits) (h2 : bits ≤ 64) :
    (signExtend bits v).toNat =
      v.toNat % 2 ^ bits + if 2 ^ (bits - 1) ≤ v.toNat % 2 ^ bits then 2 ^ 64 - 2 ^ bits else 0 :=
  toNat_signExtend bits v h2

private theorem pvalue_toNat (p : U32) (pe : U16) :
    ((p.setWidth 64 : U64) ||| ((pe.setWidth 64 : U64) <<< 32)).toNat = p.toNat + pe.toNat * 2 ^ 32 := by
  have hpe := pe.isLt
  rw [BitVec.toNat_or, BitVec.toNat_shiftLeft, BitVec.toNat_setWidth_of_le (by decide),
    BitVec.toNat_setWidth_of_le (by decide), Nat.shiftLeft_eq, Nat.mod_eq_of_lt (by omega), Nat.or_comm, Nat.add_comm,
    Nat.mul_comm]
  exact (Nat.two_pow_add_eq_or_of_lt p.isLt _).symm

theorem u16_lt_four (ps : U16) (h : ps.toNat < 4) : ps = 0 ∨ ps = 1 ∨ ps = 2 ∨ ps = 3 := by
  have : ps.toNat = 0 ∨ ps.toNat = 1 ∨ ps.toNat = 2 ∨ ps.toNat = 3 := by omega
  rcases this with h | h | h | h
  exacts [.inl (BitVec.eq_of_toNat_eq h), .inr (.inl (BitVec.eq_of_toNat_eq h)),
    .inr (.inr (.inl (BitVec.eq_of_toNat_eq h))), .inr (.inr (.inr (BitVec.eq_of_toNat_eq h)))]

theorem productToBus40_readings (p : U32) (pe : U16) :
    productToBus40 p pe 0 = signExtend 33 (p.setWidth 64 ||| (pe.setWidth 64 <<< 32)) ∧
    productToBus40 p pe 1 = signExtend 32 ((p.setWidth 64 ||| (pe.setWidth 64 <<< 32)) >>> 1) ∧
    productToBus40 p pe 2 = signExtend 34 ((p.setWidth 64 ||| (pe.setWidth 64 <<< 32)) <<< 1) ∧
    productToBus40 p pe 3 = signExtend 35 ((p.setWidth 64 ||| (pe.setWidth 64 <<< 32)) <<< 2) :=
  ⟨rfl, rfl, rfl, rfl⟩

/-- **Every read of a product applies the selected product shift with sign extension**: none,
arithmetic `>> 1` (floor), `<< 1`, `<< 2` of the exact 33-bit product. -/
theorem productToBus40_spec (p : U32) (pe ps : U16) (hpe : pe.toNat < 2) (hps : ps.toNat < 4) :
    (productToBus40 p pe ps).toInt =
      if ps = 0 then I33 p pe else if ps = 1 then I33 p pe / 2
      else if ps = 2 then 2 * I33 p pe else 4 * I33 p pe := by
  have hv := pvalue_toNat p pe
  have hp := p.isLt
  obtain ⟨r0, r1, r2, r3⟩ := productToBus40_readings p pe
  unfold I33
  rcases u16_lt_four ps hps with rfl | rfl | rfl | rfl
  · rw [if_pos rfl, r0, signExtend_toInt_iff 33 _ (by decide), hv]
    omega
  · rw [if_neg (by decide), if_pos rfl, r1, signExtend_toInt_iff 32 _ (by decide),
      BitVec.toNat_ushiftRight, hv, Nat.shiftRight_eq_div_pow]
    omega
  · rw [if_neg (by decide), if_neg (by decide), if_pos rfl, r2, signExtend_toInt_iff 34 _ (by decide),
      BitVec.toNat_shiftLeft, hv, Nat.shiftLeft_eq]
    omega
  · rw [if_neg (by decide), if_neg (by decide), if_neg (by decide), r3,
      signExtend_toInt_iff 35 _ (by decide), BitVec.toNat_shiftLeft, hv, Nat.shiftLeft_eq]
    omega

/-! ## the 40-bit shifter (`ShiftBus40`)

`shiftCore` works on the 64-bit word `value & mask40`; its value is shown to be the shift of `BitVec 40`
(`<<<`, `>>>`, `sshiftRight`) of the 40-bit operand, bit by bit, for a variable amount. -/

/-- `U40` of C03 with `2 ^ 40` elaborated under Mathlib (`Monoid.npow`); the two are equal by `rfl`. -/
def U40' (v : U64) : Nat := v.toNat % 2 ^ 40

theorem U40'_eq (v : U64) : U40' v = (v.setWidth 40).toNat := U40_eq v

theorem U40'_testBit (v : U64) (j : Nat) :
    (U40' v).testBit j = (decide (j < 40) && v.getLsbD j) := by
  rw [U40', Nat.testBit_mod_two_pow, BitVec.testBit_toNat]

/-- The code tests one bit by masking with `1 << k`. -/
theorem and_one_shl_ne_zero (v : U64) (k : Nat) :
    ((v &&& ((1 <<< k : Nat) : U64)) != 0) = v.getLsbD k := by
  rw [BitVec.natCast_eq_ofNat, Nat.shiftLeft_eq, Nat.one_mul]
  have : BitVec.ofNat 64 (2 ^ k) = BitVec.twoPow 64 k := by
    apply BitVec.eq_of_toNat_eq; simp [BitVec.toNat_twoPow]
  rw [this, BitVec.and_twoPow]
  cases h : v.getLsbD k
  · simp
  · simp [BitVec.toNat_eq, BitVec.toNat_twoPow_of_lt (BitVec.lt_of_getLsbD h)]

private theorem sv_left (sv : U16) : ((sv >>> 15) == 0) = decide (sv.toNat < 0x8000) := by
  rw [beq_eq_decide_toNat, BitVec.toNat_ushiftRight, Nat.shiftRight_eq_div_pow, decide_eq_decide]
  have := sv.isLt
  show sv.toNat / 2 ^ 15 = 0 ↔ _
  omega

theorem shl_setWidth (value : U64) (sv s : U16) (h : sv.toNat < 0x8000) :
    (shiftCore value sv s).value.setWidth 40 = value.setWidth 40 <<< sv.toNat := by
  unfold shiftCore
  simp only [sv_left, h, decide_true, if_true]
  by_cases hn : sv.toNat ≥ 40
  · simp only [hn, if_true]
    apply BitVec.eq_of_getLsbD_eq; intro i hi
    have : i < sv.toNat := by omega
    simp [this]
  · simp only [hn, if_false]
    rw [BitVec.setWidth_shiftLeft_of_le (by decide), and_mask40_setWidth]

/-- **Left shift, value (both modes).**  The low 40 bits of the result are the low 40 bits of
`value · 2ⁿ` (zero for `n ≥ 40`). -/
theorem shl_value (value : U64) (sv s : U16) (h : sv.toNat < 0x8000) :
    U40' (shiftCore value sv s).value = (U40' value * 2 ^ sv.toNat) % 2 ^ 40 := by
  rw [U40'_eq, shl_setWidth value sv s h, BitVec.toNat_shiftLeft, Nat.shiftLeft_eq, ← U40'_eq]

/-- **Left shift, carry.**  For `0 ≤ n < 40` the carry is bit `40 − n` of the 40-bit operand, i.e.
the last bit shifted out (no bit for `n = 0`); for `n ≥ 40` the code reports 0. -/
theorem shl_carry (value : U64) (sv s : U16) (h : sv.toNat < 0x8000) :
    (shiftCore value sv s).fc0 =
      b2u (decide (sv.toNat < 40) && (U40' value).testBit (40 - sv.toNat)) := by
  unfold shiftCore
  simp only [sv_left, h, decide_true, if_true]
  by_cases hn : sv.toNat ≥ 40
  · simp only [hn, if_true, Nat.not_lt.2 hn, decide_false, Bool.false_and]; rfl
  · have h1 : sv.toNat < 40 := by omega
    have h2 : ¬ 40 < sv.toNat := by omega
    simp only [hn, if_false, and_one_shl_ne_zero, U40'_testBit,
      BitVec.getLsbD_shiftLeft, BitVec.getLsbD_and, getLsbD_mask40]
    simp [h1, h2, Bool.and_comm]

/-! ### overflow of the left shift: does `value · 2ⁿ` still fit 40 bits? -/

theorem bmod_two_pow_eq_self (I : Int) (k : Nat) :
    I.bmod (2 ^ (k + 1)) = I ↔ -2 ^ k ≤ I ∧ I < 2 ^ k := by
  rw [Int.bmod_eq_iff (Nat.two_pow_pos _)]
  simp only [Int.sub_self, Int.dvd_zero, and_true, Nat.pow_succ, Int.natCast_mul, Int.natCast_pow,
    Nat.cast_ofNat]
  omega

theorem fits_mul_two_pow (I : Int) (k n : Nat) :
    (-2 ^ (k + n) ≤ I * 2 ^ n ∧ I * 2 ^ n < 2 ^ (k + n)) ↔ (-2 ^ k ≤ I ∧ I < 2 ^ k) := by
  have hp : (0 : Int) < 2 ^ n := by positivity
  rw [pow_add, ← neg_mul, Int.mul_le_mul_right hp, Int.mul_lt_mul_right hp]

theorem not_fits_mul_two_pow (I : Int) (n : Nat) (hn : 40 ≤ n) :
    (I * 2 ^ n < -2 ^ 39 ∨ 2 ^ 39 ≤ I * 2 ^ n) ↔ I ≠ 0 := by
  have hp : (2 : Int) ^ 40 ≤ 2 ^ n := pow_le_pow_right₀ (by decide) hn
  constructor
  · rintro h rfl; omega
  · intro h
    have h0 : (0 : Int) ≤ 2 ^ n := by positivity
    rcases Int.lt_or_gt_of_ne h with h | h
    · have := Int.mul_le_mul_of_nonneg_right (show I ≤ -1 by omega) h0
      left; omega
    · have := Int.mul_le_mul_of_nonneg_right (show 1 ≤ I by omega) h0
      right; omega

theorem toInt_setWidth_of_le {w : Nat} (x : BitVec w) {b c : Nat} (h : b ≤ c) :
    (x.setWidth b).toInt = (x.setWidth c).toInt.bmod (2 ^ b) := by
  rw [BitVec.toInt_setWidth, BitVec.toInt_setWidth, Int.bmod_bmod_of_dvd (Nat.pow_dvd_pow 2 h)]

theorem and_mask40_eq_zero (v : U64) : v &&& mask40 = 0 ↔ v.setWidth 40 = 0 := by
  rw [← BitVec.toNat_inj, ← BitVec.toNat_inj, and_mask40_toNat, BitVec.toNat_setWidth]; rfl

/-- **Left shift, overflow.**  In arithmetic mode `fv` is raised exactly when `value · 2ⁿ` does not
fit 40 bits two's complement (an arithmetic left shift loses significant bits); in logic mode
`fv` is left alone. -/
theorem shl_overflow (value : U64) (sv s : U16) (h : sv.toNat < 0x8000) :
    (shiftCore value sv s).fv =
      if s = 0 then
        some (b2u (decide ((value.setWidth 40).toInt * 2 ^ sv.toNat < -2 ^ 39 ∨
                           2 ^ 39 ≤ (value.setWidth 40).toInt * 2 ^ sv.toNat)))
      else none := by
  unfold shiftCore
  simp only [sv_left, h, decide_true, if_true]
  by_cases hs : s = 0
  · subst hs
    simp only [beq_self_eq_true, if_true]
    generalize hI : (value.setWidth 40).toInt = I
    by_cases hn : sv.toNat ≥ 40
    · simp only [hn, if_true]
      congr 2
      rw [Bool.eq_iff_iff, bne_iff_ne, decide_eq_true_eq, not_fits_mul_two_pow I _ hn, Ne, Ne,
        and_mask40_eq_zero, ← hI, ← BitVec.toInt_inj]
      rfl
    · -- the code compares the 40-bit reading with the `40 − n`-bit reading of the operand
      simp only [hn, if_false]
      have hf := fits_mul_two_pow I (39 - sv.toNat) sv.toNat
      rw [show 39 - sv.toNat + sv.toNat = 39 by omega] at hf
      congr 2
      rw [Bool.eq_iff_iff, bne_iff_ne, decide_eq_true_eq, Ne, ← BitVec.toInt_inj,
        toInt_signExtend 40 _ (by decide), toInt_signExtend _ _ (by omega),
        toInt_setWidth_of_le _ (show 40 - sv.toNat ≤ 40 by omega), and_mask40_setWidth, hI,
        show 40 - sv.toNat = 39 - sv.toNat + 1 by omega, eq_comm, bmod_two_pow_eq_self, ← hf]
      omega
  · simp only [hs, beq_false_of_ne hs, if_false, Bool.false_eq_true]
    split <;> rfl

/-! ### right shifts (`sv` negative; amount `m = 2¹⁶ − sv`) -/

private theorem sv_right (sv : U16) (h : 0x8000 ≤ sv.toNat) : ((sv >>> 15) == 0) = false := by
  rw [sv_left]; simp; omega

private theorem nsv_toNat (sv : U16) (h : 0x8000 ≤ sv.toNat) : (~~~sv + 1).toNat = 2 ^ 16 - sv.toNat := by
  rw [show ~~~sv + 1 = -sv from (BitVec.neg_eq_not_add sv).symm, BitVec.toNat_neg, Nat.mod_eq_of_lt (by omega)]

/-- Right shifts clear `fv` in arithmetic mode and leave it alone in logic mode. -/
theorem shr_overflow (value : U64) (sv s : U16) (h : 0x8000 ≤ sv.toNat) :
    (shiftCore value sv s).fv = if s = 0 then some 0 else none := by
  unfold shiftCore
  simp only [sv_right sv h, Bool.false_eq_true, if_false, apply_ite ShiftOut.fv, ite_self, beq_iff_eq]
  split <;> rfl

/-- The code's arithmetic shift right by `m < 40` — shift, then sign-extend from the `40 − m` bits left —
is `BitVec.sshiftRight` of the 40-bit operand: bit `i` of the result is bit `m + i` of the operand
while that is below 40, else bit 39. -/
theorem signExtend_ushiftRight (v : U64) (m : Nat) (hm : m < 40) :
    (signExtend (40 - m) (v >>> m)).setWidth 40 = (v.setWidth 40).sshiftRight m := by
  apply BitVec.eq_of_getLsbD_eq; intro i hi
  have hi' : i < 64 := by omega
  have hi'' : ¬ 40 ≤ i := by omega
  have e : m + (40 - m - 1) = 39 := by omega
  have e' : 0 < 40 - m := by omega
  rw [BitVec.getLsbD_sshiftRight, BitVec.msb_eq_getLsbD_last]
  simp only [signExtend, BitVec.getLsbD_setWidth, BitVec.getLsbD_signExtend, BitVec.getLsbD_ushiftRight,
    BitVec.msb_setWidth, hi, hi', hi'', decide_true, decide_false, Bool.true_and, Bool.not_false, e, e']
  by_cases hmi : m + i < 40
  · have : i < 40 - m := by omega
    simp [*]
  · have : ¬ i < 40 - m := by omega
    simp [*]

theorem shr_arith_setWidth (value : U64) (sv : U16) (h : 0x8000 ≤ sv.toNat) :
    (shiftCore value sv 0).value.setWidth 40 = (value.setWidth 40).sshiftRight (2 ^ 16 - sv.toNat) := by
  unfold shiftCore
  simp only [sv_right sv h, Bool.false_eq_true, if_false, beq_self_eq_true, if_true, nsv_toNat sv h]
  generalize 2 ^ 16 - sv.toNat = m
  by_cases hm : m ≥ 40
  · -- everything is shifted out: all 40 bits are the sign
    apply BitVec.eq_of_getLsbD_eq; intro i hi
    have hmi : ¬ m + i < 40 := by omega
    have hi'' : ¬ 40 ≤ i := by omega
    rw [BitVec.getLsbD_sshiftRight, BitVec.msb_eq_getLsbD_last]
    simp only [hm, if_true, shr_and_one, hmi, if_false, hi'', decide_false, Bool.not_false,
      Bool.true_and, BitVec.getLsbD_setWidth, getLsbD_and_mask40]
    generalize value.getLsbD 39 = b
    cases b <;> simp [getLsbD_mask40, hi]
  · simp only [hm, if_false]
    rw [signExtend_ushiftRight _ m (by omega), and_mask40_setWidth]

theorem toInt_sshiftRight_div {w : Nat} (x : BitVec w) (n : Nat) :
    (x.sshiftRight n).toInt = x.toInt / 2 ^ n := by
  rw [BitVec.toInt_sshiftRight, Int.shiftRight_eq_div_pow, Int.natCast_pow]; rfl

/-- **Arithmetic right shift, value.**  The result is `⌊value / 2ᵐ⌋` (floor division of the signed
40-bit operand), for every amount `1 ≤ m ≤ 32768`. -/
theorem shr_arith_value (value : U64) (sv : U16) (h : 0x8000 ≤ sv.toNat) :
    (signExtend 40 (shiftCore value sv 0).value).toInt =
      (value.setWidth 40).toInt / 2 ^ (2 ^ 16 - sv.toNat) := by
  rw [toInt_signExtend 40 _ (by decide), shr_arith_setWidth value sv h, toInt_sshiftRight_div]

/-- Bit `j` of a 40-bit two's-complement number read arithmetically: bits above 39 repeat bit 39. -/
theorem toInt_div_two_pow_mod_two (x : BitVec 40) (j : Nat) :
    decide (x.toInt / 2 ^ j % 2 = 1) = x.getLsbD (min j 39) := by
  have h0 : (x.sshiftRight j).getLsbD 0 = x.getLsbD (min j 39) := by
    rw [BitVec.getLsbD_sshiftRight, BitVec.msb_eq_getLsbD_last]
    by_cases hj : j < 40
    · simp [hj, Nat.min_eq_left (Nat.le_of_lt_succ hj)]
    · simp [hj, Nat.min_eq_right (Nat.le_of_lt (Nat.not_lt.1 hj))]
  rw [← toInt_sshiftRight_div, ← h0, ← BitVec.testBit_toNat, Nat.testBit_eq_decide_div_mod_eq, decide_eq_decide,
    BitVec.toInt_eq_toNat_cond]
  simp only [Nat.pow_zero, Nat.div_one]
  split <;> omega

/-- **Arithmetic right shift, carry.**  The carry is the last bit shifted out of the (infinitely
sign-extended) operand: bit `m − 1` of `value`, the sign for `m ≥ 40`. -/
theorem shr_arith_carry (value : U64) (sv : U16) (h : 0x8000 ≤ sv.toNat) :
    (shiftCore value sv 0).fc0 =
      b2u (decide ((value.setWidth 40).toInt / 2 ^ (2 ^ 16 - sv.toNat - 1) % 2 = 1)) := by
  rw [toInt_div_two_pow_mod_two]
  unfold shiftCore
  simp only [sv_right sv h, Bool.false_eq_true, if_false, beq_self_eq_true, if_true, nsv_toNat sv h]
  by_cases hm : 2 ^ 16 - sv.toNat ≥ 40
  · simp only [hm, if_true, shr_and_one_setWidth, getLsbD_and_mask40,
      Nat.min_eq_right (Nat.le_sub_one_of_lt hm)]
  · simp only [hm, if_false, and_one_shl_ne_zero, getLsbD_and_mask40,
      Nat.min_eq_left (show 2 ^ 16 - sv.toNat - 1 ≤ 39 by omega)]

theorem shr_logic_setWidth (value : U64) (sv s : U16) (hs : s ≠ 0) (h : 0x8000 ≤ sv.toNat) :
    (shiftCore value sv s).value.setWidth 40 = value.setWidth 40 >>> (2 ^ 16 - sv.toNat) := by
  unfold shiftCore
  simp only [sv_right sv h, Bool.false_eq_true, if_false, beq_false_of_ne hs, nsv_toNat sv h]
  generalize 2 ^ 16 - sv.toNat = m
  apply BitVec.eq_of_getLsbD_eq; intro i hi
  rw [BitVec.getLsbD_ushiftRight]
  by_cases hm : m ≥ 40
  · simp only [hm, if_true]
    rw [BitVec.getLsbD_of_ge _ _ (show 40 ≤ m + i by omega)]; simp
  · simp only [hm, if_false, BitVec.getLsbD_setWidth, BitVec.getLsbD_ushiftRight, getLsbD_and_mask40, hi,
      decide_true, Bool.true_and]

/-- **Logical right shift, value.**  The 40-bit pattern is shifted right with zero fill:
`⌊pattern / 2ᵐ⌋` (zero for `m ≥ 40`). -/
theorem shr_logic_value (value : U64) (sv s : U16) (hs : s ≠ 0) (h : 0x8000 ≤ sv.toNat) :
    U40' (shiftCore value sv s).value = U40' value / 2 ^ (2 ^ 16 - sv.toNat) := by
  rw [U40'_eq, shr_logic_setWidth value sv s hs h, BitVec.toNat_ushiftRight, Nat.shiftRight_eq_div_pow,
    ← U40'_eq]

/-- **Logical right shift, carry.**  Bit `m − 1` of the pattern for `m < 40`; 0 for `m ≥ 40`
(the code reports 0 there, also for `m = 40`). -/
theorem shr_logic_carry (value : U64) (sv s : U16) (hs : s ≠ 0) (h : 0x8000 ≤ sv.toNat) :
    (shiftCore value sv s).fc0 =
      b2u (decide (2 ^ 16 - sv.toNat < 40) && (U40' value).testBit (2 ^ 16 - sv.toNat - 1)) := by
  unfold shiftCore
  simp only [sv_right sv h, Bool.false_eq_true, if_false, beq_false_of_ne hs, nsv_toNat sv h]
  by_cases hm : 2 ^ 16 - sv.toNat ≥ 40
  · simp only [hm, if_true, Nat.not_lt.2 hm, decide_false, Bool.false_and]; rfl
  · have h1 : 2 ^ 16 - sv.toNat < 40 := by omega
    have h2 : 2 ^ 16 - sv.toNat - 1 < 40 := by omega
    simp only [hm, if_false, and_one_shl_ne_zero, U40'_testBit,
      getLsbD_and_mask40, BitVec.getLsbD_setWidth, h1, h2, decide_true, Bool.true_and]

end Teakra.Alu
