import Proofs.C19Step
import Proofs.C07Icu
/-!
# C19, protocol guarantees over the interleaving semantics `TeakraModel/Conc.lean`

"The host-side mailbox and semaphore calls may be made from another thread while `Run` executes: … every
value the receiver reads is one the sender wrote and values are seen in send order, and the last value sent is
always eventually observed.  Every send with interrupts enabled is followed by at least one interrupt delivery
to the other side …"

All theorems are by invariants and induction over `Reachable`, never by exploring interleavings:
`Proofs/C19Step.lean` says what an atomic action does to each component a theorem talks about (`StepSpec`: one
channel's flag/word/histories, one latch, the acting thread's stack and signalling counters); the invariants
(`ChanInv`, `LatchInv`, `SigInv`) are proved on those components.  `semSet_is_sequential` / `semMask_is_sequential`:
the split semaphore actions compose to the C14-validated sequential methods.

**What this cannot exhibit.**  (1) Nothing below "access under a lock / atomic operation" of the C++ memory
model: the atomic actions are licensed by `race_free_holds` / `actions_justified` (`Proofs/C19.lean`).  (Were a
member racy — listed in `knownRacy`, empty on the current tree — the C++ would have no defined behaviour on schedules
that exercise the race and the model, which treats every access as atomic, would say nothing about them.)
(2) Liveness: "the last value sent is *eventually* observed" is proved in its safety form (`last_value_observed`:
whenever a receive happens it returns the last value; `latch_exchange_lossless`: whenever the next exchange
happens it sees the latch); that the DSP program does receive, and that the scheduler lets it, is outside the
model.  (3) The relative order of `vinterrupt_address` / `vinterrupt_pending` / `vinterrupt_context_switch`: they
are three separate atomic stores, so a `vexchange` between the second and the third store pairs the new address
with the previous context-switch flag — the model exhibits this, no theorem here rules it out (it is outside the
property's text).
-/
namespace Teakra.Conc
open Teakra

section
variable {cb : HostCallbacks} {g g' : Global} {t : Tid} {f : Frame} {rest : List Frame}

theorem step_view (hst : g.stack t = f :: rest) (h : step cb g t = some g') (s : Side) (ch : Fin 3) :
    view g' s ch = (view g s ch).apply (chanOpOf s ch f) := (step_spec hst h).chan s ch

theorem step_lview (hst : g.stack t = f :: rest) (h : step cb g t = some g') (i : Fin 3) :
    lview g' i = (lview g i).apply (latchOpOf i f) := (step_spec hst h).latch i

theorem step_stack (hst : g.stack t = f :: rest) (h : step cb g t = some g') :
    ∃ pushed, g'.stack = upd g.stack t (pushed ++ rest) := ⟨_, (step_spec hst h).stack⟩

end

private theorem chan_set (a : Apbp) (ch ch' : Fin 3) (c : DataChannel) :
    ({ a with dataChannels := a.dataChannels.set ch' c } : Apbp).dataChannels[ch] =
      if ch' = ch then c else a.dataChannels[ch] := by
  simpa only [upd_same, true_and] using chan_upd (fun _ => a) .cpu .cpu ch ch' c

/-! ## the channel invariant -/

/-- What holds of every channel in every reachable state: the ready flag implies something was sent; the
stored word is the last word sent (0 before the first send); the words taken with ready = 1 are a
subsequence of the words sent, *excluding* the last one while it is still waiting (ready = 1); every word
returned by a read was sent (or is the initial 0); `sentIrq` runs parallel to `sent`. -/
structure ChanInv (c : ChanView) : Prop where
  ready_sent : c.chan.ready = true → c.sent ≠ []
  data_last : c.chan.data = c.sent.getLast?.getD 0
  taken_sub : c.taken.Sublist (if c.chan.ready then c.sent.dropLast else c.sent)
  reads_sent : ∀ v ∈ c.reads, v ∈ c.sent ∨ v = 0
  len : c.sentIrq.length = c.sent.length

private theorem nil_or_snoc {α : Type} (l : List α) : l = [] ∨ ∃ l' a, l = l' ++ [a] := by
  rcases List.eq_nil_or_concat l with e | ⟨l', a, e⟩
  · exact Or.inl e
  · exact Or.inr ⟨l', a, by rw [e, List.concat_eq_append]⟩

private theorem taken_sub_sent {c : ChanView} (h : ChanInv c) : c.taken.Sublist c.sent := by
  have := h.taken_sub
  split at this
  · exact this.trans (List.dropLast_sublist _)
  · exact this

theorem ChanInv.apply {c : ChanView} (h : ChanInv c) (op : ChanOp) : ChanInv (c.apply op) := by
  have hreads : ∀ w ∈ c.reads ++ [c.chan.data], w ∈ c.sent ∨ w = 0 := by
    intro w hw
    rcases List.mem_append.1 hw with hw | hw
    · exact h.reads_sent w hw
    · -- the stored word is the last one sent, or the initial 0
      rw [List.mem_singleton.1 hw, h.data_last]
      rcases nil_or_snoc c.sent with e | ⟨l, a, e⟩
      · right; simp [e]
      · left; simp [e]
  cases op with
  | none => exact h
  | send v =>
    refine ⟨fun _ => by simp [ChanView.apply], by simp [ChanView.apply], ?_, ?_, by simp [ChanView.apply, h.len]⟩
    · simp only [ChanView.apply, if_true, List.dropLast_concat]
      exact taken_sub_sent h
    · exact fun w hw => (h.reads_sent w hw).imp_left (List.mem_append_left _)
  | recv =>
    refine ⟨fun e => by simp [ChanView.apply] at e, h.data_last, ?_, hreads, h.len⟩
    simp only [ChanView.apply, Bool.false_eq_true, if_false]
    by_cases hr : c.chan.ready = true
    · simp only [hr, if_true]
      have hs := h.taken_sub
      simp only [hr, if_true] at hs
      rcases nil_or_snoc c.sent with e | ⟨l, a, e⟩
      · exact absurd e (h.ready_sent hr)
      · have hd : c.chan.data = a := by rw [h.data_last, e]; simp
        rw [e, List.dropLast_concat] at hs
        rw [e, hd]
        exact List.Sublist.append hs (List.Sublist.refl _)
    · simp only [hr]
      exact taken_sub_sent h
  | peek => exact ⟨h.ready_sent, h.data_last, h.taken_sub, hreads, h.len⟩
  | setDisable v | poll => exact ⟨h.ready_sent, h.data_last, h.taken_sub, h.reads_sent, h.len⟩

theorem chanInv_reachable {cb : HostCallbacks} {hs ds : List Call} {icu : Icu} {g : Global}
    (hr : Reachable cb (init hs ds icu) g) (s : Side) (ch : Fin 3) : ChanInv (view g s ch) := by
  induction hr with
  | init => refine ⟨?_, ?_, ?_, ?_, ?_⟩ <;> simp [view, init, Global.chan]
  | step t _ hstep ih =>
    obtain ⟨f, rest, -, sp⟩ := step_cases hstep
    rw [sp.chan]; exact ih.apply _

/-! ## interrupt signalling: the bookkeeping invariant -/

/-- Per thread: every send that found the channel's interrupt enabled has either already made its handler
call or still has the handler frame on the thread's stack (it is the thread's very next action); every
`on_interrupt` call scheduled by `ICU::Trigger` has either stored its latch or is still on the stack, above
the release of the ICU mutex. -/
def SigInv (g : Global) : Prop := ∀ t s, (counters g t s).Balanced s (g.stack t)

theorem sigInv_step {cb : HostCallbacks} {g g' : Global} {t : Tid} (h : step cb g t = some g')
    (hi : SigInv g) : SigInv g' := by
  obtain ⟨f, rest, hst, sp⟩ := step_cases h
  intro t' s
  by_cases e : t' = t
  · subst e
    rw [sp.count, sp.stack_self]
    exact (hst ▸ hi t' s).exec _
  · rw [sp.count_other t' s e, sp.stack_other e]
    exact hi t' s

theorem sigInv_reachable {cb : HostCallbacks} {hs ds : List Call} {icu : Icu} {g : Global}
    (hr : Reachable cb (init hs ds icu) g) : SigInv g := by
  induction hr with
  | init =>
    intro t s
    cases t <;> simp [Counters.Balanced, counters, init, countP_calls (p := isDataHandler s) fun _ => rfl,
      countP_calls (p := isLatchSet) fun _ => rfl]
  | step t _ hstep ih => exact sigInv_step hstep ih

/-! ## the latches -/

/-- Every `true` returned by an `exchange` consumes a store: observations never outnumber stores, and a
latch that is still set is one more store not yet observed. -/
def LatchInv (c : LatchView) : Prop := c.observed + (if c.latch then 1 else 0) ≤ c.sets

theorem LatchInv.apply {c : LatchView} (h : LatchInv c) (op : LatchOp) : LatchInv (c.apply op) := by
  unfold LatchInv at *
  cases op with
  | none => exact h
  | set => simp only [LatchView.apply, if_true]; split at h <;> omega
  | exchange =>
    simp only [LatchView.apply]
    split
    · rename_i hl; simp only [hl, if_true] at h; simp; omega
    · rename_i hl; simpa [hl] using h

theorem latchInv_reachable {cb : HostCallbacks} {hs ds : List Call} {icu : Icu} {g : Global}
    (hr : Reachable cb (init hs ds icu) g) (i : Fin 3) : LatchInv (lview g i) := by
  induction hr with
  | init => simp [LatchInv, lview, init]
  | step t _ hstep ih =>
    obtain ⟨f, rest, -, sp⟩ := step_cases hstep
    rw [sp.latch]; exact ih.apply _

/-! # The property theorems

All of them quantify over every state reachable from construction by *any* interleaving of the two
threads' atomic actions (`Reachable`), for arbitrary scripts of API calls on both sides (also calls a
thread would not normally make — e.g. both threads receiving from the same channel), arbitrary host
callbacks and unbounded histories. -/

section
variable {cb : HostCallbacks} {hs ds : List Call} {icu : Icu} {g : Global}

/-- **Every value the receiver reads is one the sender wrote.**  Every word returned by `RecvData` or
`PeekData` on a channel was sent on that channel — or is the constructor's `data = 0`, which is what a read
before the first send returns; every word received while the channel's ready flag was 1 was sent, without
exception. -/
theorem reads_are_writes (hr : Reachable cb (init hs ds icu) g) (s : Side) (ch : Fin 3) :
    (∀ v ∈ g.reads s ch, v ∈ g.sent s ch ∨ v = 0) ∧ (∀ v ∈ g.taken s ch, v ∈ g.sent s ch) :=
  ⟨(chanInv_reachable hr s ch).reads_sent, fun _ hv => (taken_sub_sent (chanInv_reachable hr s ch)).subset hv⟩

/-- **Values are seen in send order.**  The sequence of words received with ready = 1 is a subsequence of
the sequence of words sent on the channel (a word overwritten before it was received is skipped, nothing is
reordered, nothing is received twice); and while ready = 1 that subsequence does not yet contain the last
word sent — it is still waiting. -/
theorem send_order (hr : Reachable cb (init hs ds icu) g) (s : Side) (ch : Fin 3) :
    (g.taken s ch).Sublist (g.sent s ch) ∧
    ((g.chan s ch).ready = true → (g.taken s ch).Sublist (g.sent s ch).dropLast) := by
  have h := chanInv_reachable hr s ch
  exact ⟨taken_sub_sent h, fun hr' => by simpa only [view, hr', if_true] using h.taken_sub⟩

/-- **The last value sent is what a receive observes** (safety form of "the last value sent is always
eventually observed").  In every reachable state — the store of `Send` is one atomic action under the channel
mutex, so "the sender has no send in progress" holds between any two actions — the channel holds the last
word sent: `RecvData` and `PeekData` return it, whichever thread performs them next; and if the ready flag
is still 1 that receive is recorded as taken with ready = 1. -/
theorem last_value_observed (hr : Reachable cb (init hs ds icu) g) (s : Side) (ch : Fin 3) (v : U16)
    (hv : (g.sent s ch).getLast? = some v) :
    ((g.apbp s).recvData ch).2 = v ∧ (g.apbp s).peekData ch = v ∧
    ∀ (t : Tid) (rest : List Frame) (g' : Global), g.stack t = Frame.call (Call.recv s ch) :: rest →
      step cb g t = some g' →
      g'.reads s ch = g.reads s ch ++ [v] ∧
      ((g.chan s ch).ready = true → g'.taken s ch = g.taken s ch ++ [v]) := by
  have h := chanInv_reachable hr s ch
  have hd : (g.chan s ch).data = v := by simpa only [view, hv, Option.getD_some] using h.data_last
  refine ⟨hd, hd, fun t rest g' hst hstep => ?_⟩
  have hv' := step_view hst hstep s ch
  simp only [chanOpOf, and_self, if_true, ChanView.apply, view] at hv'
  have e1 : g'.reads s ch = g.reads s ch ++ [(g.chan s ch).data] := congrArg ChanView.reads hv'
  have e2 := congrArg ChanView.taken hv'
  simp only at e2
  refine ⟨by rw [e1, hd], fun hr' => ?_⟩
  rw [e2]; simp [hr', hd]

/-- The stack discipline behind "before the call returns": a step of thread `t` replaces `t`'s top frame by
the frames the action schedules and leaves everything below — the rest of the call in progress, then the
caller's next call — in place; it does not touch the other thread's stack.  So what an action pushes is
executed by that thread before anything below it. -/
theorem step_stacks {g' : Global} {t : Tid} {f : Frame} {rest : List Frame}
    (hst : g.stack t = f :: rest) (h : step cb g t = some g') :
    (∃ pushed, g'.stack t = pushed ++ rest) ∧ ∀ t', t' ≠ t → g'.stack t' = g.stack t' := by
  obtain ⟨pushed, e⟩ := step_stack hst h
  exact ⟨⟨pushed, by rw [e, upd_same]⟩, fun t' ht => by rw [e, upd_other ht]⟩

/-- A send that finds the channel's interrupt enabled (`disable_interrupt = 0`, read under the channel
mutex in the same critical section) makes the handler call the sending thread's very next action, with the
channel mutex already released; a send that finds it disabled schedules nothing. -/
theorem send_calls_handler {g' : Global} {t : Tid} {s : Side} {ch : Fin 3} {v : U16} {rest : List Frame}
    (hst : g.stack t = Frame.call (Call.send s ch v) :: rest) (h : step cb g t = some g') :
    ((g.apbp s).getDisableInterrupt ch = 0 →
        g'.stack t = Frame.dataHandler s ch :: rest ∧ g'.irqSends t s = g.irqSends t s + 1) ∧
    ((g.apbp s).getDisableInterrupt ch ≠ 0 → g'.stack t = rest ∧ g'.irqSends t s = g.irqSends t s) := by
  have sp := step_spec hst h
  rw [sp.stack_self, sp.irqSends, pushed]
  constructor <;> intro hd
  · have hd' : (g.chan s ch).disableInterrupt = 0 := hd
    simp [hd', isDataHandler]
  · have hd' : ¬ (g.chan s ch).disableInterrupt = 0 := hd
    simp only [hd', if_false]; exact ⟨rfl, rfl⟩

private theorem trigger_apbpIrq (s : Icu) :
    s.trigger apbpIrq = ({ s with request := s.request ||| apbpIrq }, s.irqEvents 14) :=
  Icu.trigger_singleBit s 14

/-- The data handler of `apbp_from_cpu` (`icu.TriggerSingle(0xE)`): it takes the ICU mutex, latches request
bit 0xE, and schedules — before the mutex is released and before anything else this thread does — one
`SignalInterrupt(line)` store for **every** interrupt line whose enable mask routes request 0xE (and the
three stores of `SignalVectoredInterrupt` if 0xE is vectored). -/
theorem handler_triggers {g' : Global} {t : Tid} {ch : Fin 3} {rest : List Frame}
    (hst : g.stack t = Frame.dataHandler Side.cpu ch :: rest) (h : step cb g t = some g') :
    g'.icu.request = g.icu.request ||| apbpIrq ∧ g'.icu.getRequest.getLsbD 14 = true ∧
    g'.icuLock = some t ∧ g'.handlerRuns t Side.cpu = g.handlerRuns t Side.cpu + 1 ∧
    g'.stack t = (g.icu.irqEvents 14).flatMap eventFrames ++ Frame.icuRelease :: rest ∧
    ∀ line : Fin 3, g.icu.enabled[line].getLsbD 14 = true → Frame.latchSet line ∈ g'.stack t := by
  simp only [step, hst, execFrame] at h
  cases trigger_some h
  refine ⟨?_, ?_, rfl, ?_, ?_, fun line hl => ?_⟩
  · simp only [trigger_apbpIrq]
  · rw [trigger_apbpIrq]
    simp [Icu.getRequest, apbpIrq, Icu.singleBit]
  · simp
  · simp only [trigger_apbpIrq, upd_same]
  · simp only [trigger_apbpIrq, upd_same]
    have hm : IcuEvent.interrupt line ∈ g.icu.irqEvents 14 := (Icu.interrupt_mem_irqEvents g.icu 14 line).2 hl
    apply List.mem_append_left
    exact List.mem_flatMap.2 ⟨_, hm, by simp [eventFrames]⟩

/-- `SignalInterrupt(i)`: the store sets the core's latch. -/
theorem latchSet_sets {g' : Global} {t : Tid} {i : Fin 3} {rest : List Frame}
    (hst : g.stack t = Frame.latchSet i :: rest) (h : step cb g t = some g') :
    g'.latch i = true ∧ g'.latched t = g.latched t + 1 ∧ g'.stack t = rest := by
  have sp := step_spec hst h
  refine ⟨?_, congrArg Counters.latched (sp.count .cpu), sp.stack_self⟩
  have : g'.latch i = _ := congrArg LatchView.latch (sp.latch i)
  simpa [latchOpOf, LatchView.apply] using this

/-- **Every send with interrupts enabled is followed by the interrupt delivery, before the call returns.**
In every reachable state and for each thread: the number of sends that found `disable_interrupt = 0` equals
the number of handler calls made plus the handler frames still on that thread's stack, and the number of
`on_interrupt` calls `Trigger` scheduled equals the latch stores performed plus the latch frames still on the
stack.  With `send_calls_handler` (the handler frame is pushed on top), `handler_triggers` (it triggers IRQ
0xE and pushes a latch store for every routed line) and `step_stacks` (pushed frames run before what is below
them — the call's return), no send can return with its signal outstanding. -/
theorem send_signals (hr : Reachable cb (init hs ds icu) g) :
    (∀ t s, g.irqSends t s = g.handlerRuns t s + (g.stack t).countP (isDataHandler s)) ∧
    (∀ t, g.routed t = g.latched t + (g.stack t).countP isLatchSet) :=
  ⟨fun t s => (sigInv_reachable hr t s).1, fun t => (sigInv_reachable hr t .cpu).2⟩

/-- … in particular, whenever all of thread `t`'s started calls have returned (its stack holds only calls not
yet started — e.g. its script is finished), every one of its interrupt-enabled sends has had its handler
called and every line routed by those triggers has had its latch stored. -/
theorem send_signals_returned (hr : Reachable cb (init hs ds icu) g) (t : Tid)
    (hq : ∀ f ∈ g.stack t, ∃ c, f = Frame.call c) :
    (∀ s, g.irqSends t s = g.handlerRuns t s) ∧ g.routed t = g.latched t := by
  have h := send_signals hr
  have z : ∀ (p : Frame → Bool), (∀ c, p (Frame.call c) = false) → (g.stack t).countP p = 0 := by
    intro p hp
    rw [List.countP_eq_zero]
    intro f hf
    obtain ⟨c, rfl⟩ := hq f hf
    simp [hp]
  refine ⟨fun s => ?_, ?_⟩
  · rw [h.1 t s, z _ (fun _ => rfl)]; rfl
  · rw [h.2 t, z _ (fun _ => rfl)]; rfl

/-! ### the latch exchange -/

/-- No step of the schedule `ts` from `g` is an `exchange` on latch `i`. -/
def noExchange (cb : HostCallbacks) (i : Fin 3) : List Tid → Global → Prop
  | [], _ => True
  | t :: ts, g => (g.stack t).head? ≠ some (Frame.call (Call.exchange i)) ∧ noExchange cb i ts ((step cb g t).getD g)

theorem latchOpOf_exchange {i : Fin 3} {f : Frame} (h : latchOpOf i f = .exchange) :
    f = Frame.call (Call.exchange i) := by
  unfold latchOpOf at h
  split at h <;> (try split at h) <;> cases h
  rename_i e; rw [e]

/-- A latch that is set stays set under every action of either thread other than the exchange on it. -/
theorem latch_kept (i : Fin 3) (ts : List Tid) : ∀ (g : Global), g.latch i = true → noExchange cb i ts g →
    (run cb ts g).latch i = true := by
  induction ts with
  | nil => intro g h _; exact h
  | cons t ts ih =>
    intro g hl hn
    obtain ⟨hne, hn'⟩ := hn
    refine ih _ ?_ hn'
    cases hs' : step cb g t with
    | none => exact hl
    | some g' =>
      obtain ⟨f, rest, hst, sp⟩ := step_cases hs'
      show (lview g' i).latch = true
      rw [sp.latch]
      cases hop : latchOpOf i f with
      | none => exact hl
      | set => rfl
      | exchange => rw [hst, latchOpOf_exchange hop] at hne; exact absurd rfl hne

/-- **A latch set by `SignalInterrupt` is observed by the next exchange, exactly once.**  If latch `i` is set,
then after any interleaving of actions that contains no exchange on `i`, the next `exchange` on `i` — the
latch block of the next `Run` iteration — returns true: it sets `ip[i]`, clears the latch and is counted as
one observation … -/
theorem latch_exchange_lossless (i : Fin 3) (hl : g.latch i = true) (ts : List Tid) (hno : noExchange cb i ts g)
    (t : Tid) (rest : List Frame) (g' : Global)
    (hst : (run cb ts g).stack t = Frame.call (Call.exchange i) :: rest)
    (h : step cb (run cb ts g) t = some g') :
    g'.ip i = true ∧ g'.latch i = false ∧ g'.observed i = (run cb ts g).observed i + 1 := by
  have hk := latch_kept (cb := cb) i ts g hl hno
  have hv := step_lview hst h i
  simp only [latchOpOf, if_true, LatchView.apply, lview, hk] at hv
  exact ⟨congrArg LatchView.ip hv, congrArg LatchView.latch hv, congrArg LatchView.observed hv⟩

/-- … an exchange on a latch that is not set observes nothing … -/
theorem exchange_idle {g' : Global} {t : Tid} {i : Fin 3} {rest : List Frame} (hl : g.latch i = false)
    (hst : g.stack t = Frame.call (Call.exchange i) :: rest) (h : step cb g t = some g') :
    g'.ip i = g.ip i ∧ g'.latch i = false ∧ g'.observed i = g.observed i := by
  have hv := step_lview hst h i
  simp only [latchOpOf, if_true, LatchView.apply, lview, hl, Bool.false_eq_true, if_false] at hv
  exact ⟨congrArg LatchView.ip hv, congrArg LatchView.latch hv, congrArg LatchView.observed hv⟩

/-- … and in every reachable state the observations made on a latch, plus one if it is currently set, never
exceed the `SignalInterrupt` stores made to it: no store is observed twice.  (Several stores before one
exchange are observed once: the latch is a level, as in the C++.) -/
theorem exchange_once (hr : Reachable cb (init hs ds icu) g) (i : Fin 3) :
    g.observed i + (if g.latch i then 1 else 0) ≤ g.latchSets i :=
  latchInv_reachable hr i

end

/-! ### the split semaphore actions compose to the sequential methods -/

/-- `SetSemaphore`'s first action (`semaphore |= bits`) followed by its last
(`semaphore_master_signal ||= new_signal`) is the sequential `Apbp::SetSemaphore` of `TeakraModel/Apbp.lean`
(validated against the C++ by the C14 correspondence), and the handler is called exactly when that model says. -/
theorem semSet_is_sequential (a : Apbp) (bits : U16) :
    ({ a with semaphore := a.semaphore ||| bits,
              semaphoreMasterSignal := a.semaphoreMasterSignal ||
                Apbp.signalOf (a.semaphore ||| bits) a.semaphoreMask } = (a.setSemaphore bits).1) ∧
    ((a.setSemaphore bits).2 = if Apbp.signalOf (a.semaphore ||| bits) a.semaphoreMask then [.semaphore] else []) :=
  ⟨rfl, rfl⟩

/-- The same for `MaskSemaphore` (the repaired version that is in `/repo`). -/
theorem semMask_is_sequential (a : Apbp) (bits : U16) :
    ({ a with semaphoreMask := bits, semaphoreMasterSignal := Apbp.signalOf a.semaphore bits } =
      (a.maskSemaphoreGen true bits).1) ∧
    ((a.maskSemaphoreGen true bits).2 =
      if Apbp.signalOf a.semaphore bits && !a.semaphoreMasterSignal then [.semaphore] else []) := by
  simp [Apbp.maskSemaphoreGen]

/-! ## non-vacuity: a concrete interleaving

Host: two sends on channel 0 (interrupt enabled), then a peek of the DSP's reply.  DSP: receive, latch block,
reply on channel 2 (whose host callback receives the reply and sends on channel 1 — a re-entrant host callback
running on the DSP thread), latch block, receive, latch block of line 2.  The ICU routes request 0xE to lines 0
and 2.  The schedule makes the DSP's re-entrant send reach `ICU::Trigger` while the host thread still holds the
ICU mutex inside its own `Trigger` (its turn is skipped: blocked), and completes both scripts. -/

def exCb : HostCallbacks := ⟨fun ch => [.recv .dsp ch, .send .cpu 1 0x11], [.semGet .dsp]⟩
def exIcu : Icu := { enabled := #v[0x4000, 0, 0x4000] }
def exHost : List Call := [.send .cpu 0 5, .send .cpu 0 7, .peek .dsp 2]
def exDsp : List Call := [.recv .cpu 0, .exchange 0, .send .dsp 2 9, .exchange 0, .recv .cpu 0, .exchange 2]
open Tid in
def exSched : List Tid :=
  [host, dsp, host, host, host, dsp, host, dsp, host, host, dsp, dsp, dsp, dsp, dsp, dsp, dsp, dsp, dsp, dsp,
   host, host, dsp, dsp, dsp, dsp, host, host, dsp, dsp, dsp, dsp, dsp, dsp, dsp, dsp, dsp, dsp]
def exG : Global := run exCb exSched (init exHost exDsp exIcu)

/-- Both scripts run to completion; both words sent are received in order with ready = 1; the reply is read by
the callback and by the host; three `Trigger`s stored line 0's latch three times, observed by two exchanges
(two stores coalesced); all three interrupt-enabled sends had their handlers called. -/
example :
    exG.stack .host = [] ∧ exG.stack .dsp = [] ∧
    exG.sent .cpu 0 = [5, 7] ∧ exG.taken .cpu 0 = [5, 7] ∧ exG.reads .dsp 2 = [9, 9] ∧ exG.sent .cpu 1 = [0x11] ∧
    exG.latchSets 0 = 3 ∧ exG.observed 0 = 2 ∧ exG.latch 0 = false ∧ exG.ip 2 = true ∧
    exG.irqSends .host .cpu = 2 ∧ exG.handlerRuns .host .cpu = 2 ∧ exG.irqSends .dsp .cpu = 1 ∧
    exG.handlerRuns .dsp .dsp = 1 ∧ exG.routed .host = 4 ∧ exG.latched .host = 4 ∧ exG.triggers = 3 := by
  decide

/-- Every state produced by running a schedule is reachable (so the theorems above apply to `exG`). -/
theorem run_reachable (cb : HostCallbacks) (g₀ : Global) (ts : List Tid) :
    ∀ g, Reachable cb g₀ g → Reachable cb g₀ (run cb ts g) := by
  induction ts with
  | nil => intro g h; exact h
  | cons t ts ih =>
    intro g h
    simp only [run]
    cases hs : step cb g t with
    | none => simpa using ih g h
    | some g' => simpa using ih g' (Reachable.step t h hs)

/-- The hypotheses of the reachability theorems are satisfiable by this non-trivial state. -/
example : Reachable exCb (init exHost exDsp exIcu) exG := run_reachable _ _ _ _ Reachable.init

/-- A thread is really blocked while the other holds the ICU mutex: after the host's send and the first action
of its handler (inside `Trigger`), an ICU access of the DSP thread cannot step; the host can. -/
example :
    let g := run exCb [.host, .host] (init [.send .cpu 0 5] [.icuGetRequest] exIcu)
    g.icuLock = some .host ∧ (step exCb g .dsp).isNone = true ∧ (step exCb g .host).isSome = true := by
  decide

/-- A word overwritten before it is received is skipped, not reordered: sends 1, 2, 3 with one receive after
the second and one after the third give `taken = [2, 3]`, a subsequence of `[1, 2, 3]`; a further receive
(ready = 0) returns the last word again and is not counted as taken. -/
example :
    let g := run ⟨fun _ => [], []⟩ [.host, .host, .host, .host, .dsp, .host, .host, .dsp, .dsp]
      (init [.send .dsp 0 1, .send .dsp 0 2, .send .dsp 0 3] [.recv .dsp 0, .recv .dsp 0, .recv .dsp 0])
    g.sent .dsp 0 = [1, 2, 3] ∧ g.reads .dsp 0 = [2, 3, 3] ∧ g.taken .dsp 0 = [2, 3] := by
  decide

end Teakra.Conc
