import Proofs.C06Script
import Proofs.C06Sys.Witness
/-!
# C06 — slicing with host events at the slice boundaries, on the concrete machine

`Proofs/C06Script.lean` proves for any `LoopOps` that two scripts of `Run(n)` calls and host
actions with the same `merge` are observationally equal (`exec_same_merge`).  Here: the host API of
`TeakraModel/Bus.lean` (`SendData`, `RecvData`, the semaphore calls, `MMIOWrite`, …) consists of
admissible host actions on `Sys.ops true`, hence `run_script_slicing`.
-/
namespace Teakra.Sys
open LoopOps

/-! ## host actions on the whole machine

A host call between two `Run`s goes to the bus (`liftBus`, `Proofs/C06Sys/Ticks.lean`); the events it
returns (interrupt requests to the core, host callbacks) are applied to the core latches and appended
to the event history, exactly as the bus driver does (`Drive/Bus.lean`, `withBus` / `latchEvents`).
The registers, the memory log and the `idle` flag are not touched. -/

/-- `Teakra::SendData(i, v)` -/
def sendData (i : Nat) (v : U16) : Core → Except Stop Core := liftBus fun b => b.sendData i v
/-- `Teakra::RecvData(i)` (the value handed to the host is a function of the bus, see `host_reads_congr`) -/
def recvData (i : Nat) : Core → Except Stop Core := liftBus fun b =>
  match b.recvData i with
  | .ok (_, b') => .ok (b', [])
  | .error e => .error e
/-- `Teakra::SetSemaphore(v)` -/
def setSemaphore (v : U16) : Core → Except Stop Core := liftBus fun b => .ok (b.setSemaphore v)
/-- `Teakra::MaskSemaphore(v)` -/
def maskSemaphore (v : U16) : Core → Except Stop Core := liftBus fun b => .ok (b.maskSemaphore v)
/-- `Teakra::ClearSemaphore(v)` -/
def clearSemaphore (v : U16) : Core → Except Stop Core := liftBus fun b => .ok (b.clearSemaphore v, [])
/-- `Teakra::MMIOWrite(addr, v)`, unguarded -/
def hostMmioWriteRaw (addr v : U16) : Core → Except Stop Core := liftBus fun b => b.hostMmioWrite addr v
/-- `Teakra::MMIORead(addr)`, unguarded (reads have side effects on some cells) -/
def hostMmioReadRaw (addr : U16) : Core → Except Stop Core := liftBus fun b =>
  match b.hostMmioRead addr with
  | .ok (_, b', evs) => .ok (b', evs)
  | .error e => .error e

theorem liftBus_congr (f : Bus → R (Bus × List PEvent)) (s t : Core) (h : obs s = obs t) :
    (liftBus f s).map obs = (liftBus f t).map obs :=
  congr_of_idleBlind (liftBus f) (liftBus_idle f) s t h

/-- Everything the host can *read* between two calls (`RecvData`, `GetSemaphore`, `MMIORead`, the
shared memory, …) is a function of the bus, which the observation keeps. -/
theorem host_reads_congr {α : Type} (g : Bus → α) (s t : Core) (h : obs s = obs t) : g s.bus = g t.bus := by
  obtain ⟨b, rfl⟩ := obs_eq s t h
  rfl

/-! ### calls that stay inside the envelope unconditionally -/

def Bus.Quiet (f : Bus → R (Bus × List PEvent)) : Prop :=
  ∀ b b' evs, f b = .ok (b', evs) → b'.mem = b.mem ∧ b'.per.timer = b.per.timer ∧ b'.per.btdmp = b.per.btdmp

theorem hostOk_of_quiet (f : Bus → R (Bus × List PEvent)) (hq : Bus.Quiet f) :
    HostOk (ops true) ffOk obs (liftBus f) where
  congr := fun s t _ _ h => liftBus_congr f s t h
  keepsP := by
    intro s s' hp h
    obtain ⟨hr, _, hi, evs, hf, _⟩ := liftBus_frame f s s' h
    obtain ⟨hm, ht, hb⟩ := hq _ _ _ hf
    exact ⟨(idleOk_congr s s' hr hm hi).trans hp.1, (BusOk_congr ht hb).2 hp.2⟩

theorem sendData_quiet (i : Nat) (v : U16) : Bus.Quiet fun b => b.sendData i v := by
  intro b b' evs h
  simp only [Bus.sendData] at h
  split at h
  · cases h
  · cases h
    rw [Periph.raiseN_fst]
    exact ⟨rfl, rfl, rfl⟩

theorem recvData_quiet (i : Nat) : Bus.Quiet fun b =>
    match b.recvData i with
    | .ok (_, b') => .ok (b', [])
    | .error e => .error e := by
  intro b b' evs h
  simp only [Bus.recvData] at h
  cases hs : b.per.apbpFromDsp.recvDataN i with
  | error e => rw [hs] at h; cases h
  | ok r =>
    obtain ⟨a, v⟩ := r
    rw [hs] at h
    injection h with h
    injection h with h1 h2
    rw [← h1]
    exact ⟨rfl, rfl, rfl⟩

theorem setSemaphore_quiet (v : U16) : Bus.Quiet fun b => .ok (b.setSemaphore v) := by
  intro b b' evs h
  injection h with h
  simp only [Bus.setSemaphore] at h
  injection h with h1 h2
  rw [← h1, Periph.raiseN_fst]
  exact ⟨rfl, rfl, rfl⟩

theorem maskSemaphore_quiet (v : U16) : Bus.Quiet fun b => .ok (b.maskSemaphore v) := by
  intro b b' evs h
  injection h with h
  simp only [Bus.maskSemaphore] at h
  injection h with h1 h2
  rw [← h1]
  exact ⟨rfl, rfl, rfl⟩

theorem clearSemaphore_quiet (v : U16) : Bus.Quiet fun b => .ok (b.clearSemaphore v, []) := by
  intro b b' evs h
  injection h with h
  injection h with h1 h2
  rw [← h1]
  exact ⟨rfl, rfl, rfl⟩

/-! ### calls that can leave the envelope: `MMIOWrite`, `MMIORead`

An MMIO write can put a timer into a configuration `Timer::Tick` rejects, break the flag invariant
of an audio port, or (by starting a DMA transfer) rewrite the program word the idling core sits on.
The invariant `P` is decidable, so such a call can be wrapped in a guard that answers `unmodelled`
when the result is outside the envelope. -/

instance (c : Core) : Decidable (P c) := by unfold P; exact inferInstance

/-- The guard that checks `P` on the result is not admissible: it keeps `P` (`guardP_keepsP`) but it does
NOT respect the observation (`guardP_not_hostOk`), because `P` reads the `idle` flag.  `guardEnv` is the one used. -/
def guardP (act : Core → Except Stop Core) (c : Core) : Except Stop Core :=
  match act c with
  | .ok c' => if decide (P c') then .ok c' else .error (.unmodelled "host action left the proven envelope")
  | .error e => .error e

theorem guardP_ok (act : Core → Except Stop Core) (c c' : Core) (h : guardP act c = .ok c') :
    act c = .ok c' ∧ P c' := by
  unfold guardP at h
  split at h
  · rename_i c1 ha
    split at h
    · rename_i hp
      cases h
      exact ⟨ha, of_decide_eq_true hp⟩
    · cases h
  · cases h

theorem guardP_keepsP (act : Core → Except Stop Core) (c c' : Core) (h : guardP act c = .ok c') : P c' :=
  (guardP_ok act c c' h).2

/-- The envelope check that does not look at `idle`: the audio ports and the timers are inside the
envelope, and a core that sat on a plain self-branch before the call still does.  Among the checks
that treat observationally equal states alike this is the weakest one that implies `P` for the
result (`guardEnv_of_guardP`). -/
def envOk (c c' : Core) : Bool :=
  periphOk c'.bus && decide (Timer.WF (c'.bus.per.timer[0])) && decide (Timer.WF (c'.bus.per.timer[1])) &&
    (!brrSelf c || brrSelf c')

def guardEnv (act : Core → Except Stop Core) (c : Core) : Except Stop Core :=
  match act c with
  | .ok c' => if envOk c c' then .ok c' else .error (.unmodelled "host action left the proven envelope")
  | .error e => .error e

theorem guardEnv_ok (act : Core → Except Stop Core) (c c' : Core) (h : guardEnv act c = .ok c') :
    act c = .ok c' ∧ envOk c c' = true := by
  unfold guardEnv at h
  split at h
  · rename_i c1 ha
    split at h
    · rename_i he
      cases h
      exact ⟨ha, he⟩
    · cases h
  · cases h

theorem envOk_P (c c' : Core) (hi : c'.idle = c.idle) (hp : P c) (h : envOk c c' = true) : P c' := by
  unfold envOk at h
  simp only [Bool.and_eq_true, decide_eq_true_eq, Bool.or_eq_true, Bool.not_eq_true'] at h
  obtain ⟨⟨⟨h1, h2⟩, h3⟩, h4⟩ := h
  refine ⟨?_, h1, h2, h3⟩
  unfold idleOk
  rw [hi]
  cases hci : c.idle with
  | false => rfl
  | true =>
    rcases h4 with h4 | h4
    · rw [brrSelf_of_idleOk hp.1 hci] at h4; cases h4
    · simp [h4]

/-- **Any bus-level host call, guarded, is an admissible host action.** -/
theorem guardEnv_hostOk (f : Bus → R (Bus × List PEvent)) : HostOk (ops true) ffOk obs (guardEnv (liftBus f)) where
  keepsP := by
    intro s s' hp h
    obtain ⟨ha, he⟩ := guardEnv_ok _ s s' h
    exact envOk_P s s' (liftBus_frame f s s' ha).2.2.1 hp he
  congr := fun s t _ _ h => by
    refine congr_of_idleBlind _ (fun s b => ?_) s t h
    unfold guardEnv
    rw [liftBus_idle f s b]
    cases liftBus f s with
    | error e => rfl
    | ok c =>
      simp only [Except.map]
      have he : envOk { s with idle := b } { c with idle := b } = envOk s c := by
        unfold envOk
        rw [brrSelf_congr s ({ s with idle := b } : Core) rfl rfl, brrSelf_congr c ({ c with idle := b } : Core) rfl rfl]
      rw [he]
      cases envOk s c <;> rfl

/-- The envelope guard accepts only what the `P` guard accepts … -/
theorem guardP_of_guardEnv (f : Bus → R (Bus × List PEvent)) (c c' : Core) (hp : P c)
    (h : guardEnv (liftBus f) c = .ok c') : guardP (liftBus f) c = .ok c' := by
  have hp' : P c' := (guardEnv_hostOk f).keepsP c c' hp h
  obtain ⟨ha, _⟩ := guardEnv_ok _ c c' h
  unfold guardP
  rw [ha]
  simp only [hp', decide_true, if_true]

/-- … and the two differ only when a core that is *not* idle sits on a self-branch which the call
destroys (observationally equal to the idle core on that self-branch, for which `P` fails). -/
theorem guardEnv_of_guardP (f : Bus → R (Bus × List PEvent)) (c c' : Core)
    (hc : c.idle = true ∨ brrSelf c = false) (h : guardP (liftBus f) c = .ok c') :
    guardEnv (liftBus f) c = .ok c' := by
  obtain ⟨ha, hp'⟩ := guardP_ok _ c c' h
  have hi := (liftBus_frame f c c' ha).2.2.1
  have he : envOk c c' = true := by
    obtain ⟨h1, h2, h3, h4⟩ := hp'
    unfold envOk
    simp only [Bool.and_eq_true, decide_eq_true_eq, Bool.or_eq_true, Bool.not_eq_true']
    refine ⟨⟨⟨h2, h3⟩, h4⟩, ?_⟩
    rcases hc with hc | hc
    · exact .inr (brrSelf_of_idleOk h1 (hi.trans hc))
    · exact .inl hc
  unfold guardEnv
  rw [ha]
  simp only [he, if_true]

/-! #### the `P` guard does not respect the observation

Witness: the upstream witness state (idle on `brr -1` at address 0) and the same state with
`idle = false` (what a zero-length `Run` leaves) are observationally equal and both satisfy `P`.  A
host action that destroys the self-branch is rejected by `guardP` in the first (the result would be
an idle core that is not on a self-branch) and accepted in the second. -/

/-- A bus-level action that wipes the shared memory (what a DMA transfer started through MMIO can do to
the program word under the idle loop). -/
def wipe : Bus → R (Bus × List PEvent) := fun b => .ok ({ b with mem := {} }, [])

theorem guardP_not_hostOk : ¬ HostOk (ops true) ffOk obs (guardP (liftBus wipe)) := by
  intro hh
  let s := upstreamWitness
  let t : Core := { upstreamWitness with idle := false }
  have hps : P s := P_upstreamWitness
  have hpt : P t := ⟨rfl, by decide, by decide, by decide⟩
  have hc := hh.congr s t hps hpt rfl
  have hs' : liftBus wipe s = .ok { s with bus := { s.bus with mem := {} } } := rfl
  have ht' : liftBus wipe t = .ok { t with bus := { t.bus with mem := {} } } := rfl
  have hnp : ¬ P { s with bus := { s.bus with mem := {} } } := by
    intro hp
    have h1 := hp.1
    unfold idleOk brrSelf Bus.programRead Mem.readWord at h1
    simp [s, upstreamWitness, Mem.read, Mem.inRange, Mem.byteAddr, fetchAddress, Mem.bgWord] at h1
  have hp2 : P { t with bus := { t.bus with mem := {} } } := ⟨rfl, by decide, by decide, by decide⟩
  unfold guardP at hc
  rw [hs', ht'] at hc
  simp only [hnp, hp2, decide_true, decide_false, if_true, Bool.false_eq_true, if_false, Except.map] at hc
  cases hc

/-- `Teakra::MMIOWrite(addr, v)` inside the envelope -/
def hostMmioWrite (addr v : U16) : Core → Except Stop Core := guardEnv (hostMmioWriteRaw addr v)
/-- `Teakra::MMIORead(addr)` inside the envelope -/
def hostMmioRead (addr : U16) : Core → Except Stop Core := guardEnv (hostMmioReadRaw addr)

/-- The host calls covered. -/
inductive HostCall where
  | sendData (i : Nat) (v : U16)
  | recvData (i : Nat)
  | setSemaphore (v : U16)
  | maskSemaphore (v : U16)
  | clearSemaphore (v : U16)
  | mmioWrite (addr v : U16)
  | mmioRead (addr : U16)
  deriving DecidableEq, Repr

def HostCall.act : HostCall → Core → Except Stop Core
  | .sendData i v => Sys.sendData i v
  | .recvData i => Sys.recvData i
  | .setSemaphore v => Sys.setSemaphore v
  | .maskSemaphore v => Sys.maskSemaphore v
  | .clearSemaphore v => Sys.clearSemaphore v
  | .mmioWrite a v => Sys.hostMmioWrite a v
  | .mmioRead a => Sys.hostMmioRead a

/-- **Every covered call is an admissible host action**: `SendData`, `RecvData` and the three semaphore
calls without any side condition, the two MMIO calls through the envelope guard. -/
theorem HostCall.hostOk : ∀ k : HostCall, HostOk (ops true) ffOk obs k.act
  | .sendData i v => hostOk_of_quiet _ (sendData_quiet i v)
  | .recvData i => hostOk_of_quiet _ (recvData_quiet i)
  | .setSemaphore v => hostOk_of_quiet _ (setSemaphore_quiet v)
  | .maskSemaphore v => hostOk_of_quiet _ (maskSemaphore_quiet v)
  | .clearSemaphore v => hostOk_of_quiet _ (clearSemaphore_quiet v)
  | .mmioWrite _ _ => guardEnv_hostOk _
  | .mmioRead _ => guardEnv_hostOk _

inductive Step where
  | run (n : Nat)
  | call (k : HostCall)
  deriving DecidableEq, Repr

def Step.item : Step → Item Stop Core
  | .run n => .run n
  | .call k => .host k.act

def script (l : List Step) : List (Item Stop Core) := l.map Step.item

def execSteps (l : List Step) (c : Core) : Except Stop Core := exec (ops true) (script l) c

def cyclesOf : List Step → Nat
  | [] => 0
  | .run n :: l => n + cyclesOf l
  | .call _ :: l => cyclesOf l

/-- `merge` on first-order steps (so that "same host events at the same positions" is decidable). -/
def mergeSteps : List Step → List Step
  | [] => []
  | .call k :: l => .call k :: mergeSteps l
  | .run a :: l =>
    match mergeSteps l with
    | .run b :: l' => .run (a + b) :: l'
    | l' => .run a :: l'

theorem budget_script : ∀ l : List Step, budget (script l) = cyclesOf l
  | [] => rfl
  | .run n :: l => by show n + budget (script l) = _; rw [budget_script l]; rfl
  | .call k :: l => by show budget (script l) = _; rw [budget_script l]; rfl

theorem script_mergeSteps : ∀ l : List Step, script (mergeSteps l) = merge (script l)
  | [] => rfl
  | .call k :: l => by
    show Item.host k.act :: script (mergeSteps l) = Item.host k.act :: merge (script l)
    rw [script_mergeSteps l]
  | .run a :: l => by
    show script (mergeSteps (.run a :: l)) = merge (.run a :: script l)
    rw [merge_run, ← script_mergeSteps l, mergeSteps]
    cases mergeSteps l with
    | nil => rfl
    | cons x l' => cases x <;> rfl

theorem hostsOk_script (l : List Step) : HostsOk (ops true) ffOk obs (script l) := by
  intro f hf
  unfold script at hf
  obtain ⟨x, _, hx⟩ := List.mem_map.1 hf
  cases x with
  | run n => cases hx
  | call k => cases hx; exact k.hostOk

/-- **C06 with host events, abstract scripts**: any two scripts over admissible host actions with the
same `merge`, within the cycle bound, are observationally equal from every state in the envelope. -/
theorem run_script_slicing_items (l₁ l₂ : List (Item Stop Core)) (hm : merge l₁ = merge l₂)
    (hl : HostsOk (ops true) ffOk obs l₁) (hb : budget l₁ ≤ 2 ^ 63) (c : Core) (hp : P c) :
    (exec (ops true) l₁ c).map obs = (exec (ops true) l₂ c).map obs :=
  exec_same_merge ffOk obsOk l₁ l₂ hm hl hb c hp

/-- **C06 with host events.**  Executing `n` cycles interleaved with host calls (`SendData`,
`RecvData`, `Set/Mask/ClearSemaphore`, `MMIOWrite`, `MMIORead`) gives the same registers, memory,
peripheral state, interrupt latches and ordered callback events (everything but the `idle` flag that
`Run` re-initialises), and the same abort if any, for every way of slicing the cycles between the
host calls: two step lists with the same host calls in the same order at the same cumulative cycle
positions (`mergeSteps l₁ = mergeSteps l₂`, a decidable condition) are observationally equal. -/
theorem run_script_slicing (l₁ l₂ : List Step) (hm : mergeSteps l₁ = mergeSteps l₂) (hb : cyclesOf l₁ ≤ 2 ^ 63)
    (c : Core) (hp : P c) :
    (execSteps l₁ c).map obs = (execSteps l₂ c).map obs := by
  refine run_script_slicing_items (script l₁) (script l₂) ?_ (hostsOk_script l₁) ?_ c hp
  · rw [← script_mergeSteps, ← script_mergeSteps, hm]
  · rw [budget_script]; exact hb

/-- … in particular every such list equals its merged form: one `Run` between consecutive host calls. -/
theorem run_script_merged (l : List Step) (hb : cyclesOf l ≤ 2 ^ 63) (c : Core) (hp : P c) :
    (execSteps l c).map obs = (execSteps (mergeSteps l) c).map obs := by
  unfold execSteps
  rw [script_mergeSteps]
  exact exec_merge ffOk obsOk (script l) (hostsOk_script l) (by rw [budget_script]; exact hb) c hp

/-! ## non-vacuity -/

/-- Two different slicings around one `SendData`, with a zero-length slice. -/
example : mergeSteps [.run 5, .call (.sendData 0 0x1234), .run 7] =
    mergeSteps [.run 2, .run 3, .call (.sendData 0 0x1234), .run 0, .run 7] := by decide

/-- The same on the abstract scripts (host items are functions there). -/
example : merge (script [.run 5, .call (.sendData 0 0x1234), .run 7]) =
    merge (script [.run 2, .run 3, .call (.sendData 0 0x1234), .run 0, .run 7]) := rfl

/-- Hence, from the reset state: -/
example : (execSteps [.run 5, .call (.sendData 0 0x1234), .run 7] {}).map obs =
    (execSteps [.run 2, .run 3, .call (.sendData 0 0x1234), .run 0, .run 7] {}).map obs :=
  run_script_slicing _ _ (by decide) (by decide) {} ⟨rfl, by decide, by decide, by decide⟩

/-- The host call itself succeeds there (the statement is not about two aborts). -/
example : (sendData 0 0x1234 {}).toBool = true := by decide

/-- Moving a host call to a different cycle position is NOT covered (different `merge`). -/
example : mergeSteps [.run 5, .call (.setSemaphore 1), .run 7] ≠
    mergeSteps [.run 6, .call (.setSemaphore 1), .run 6] := by decide

/-- A guarded MMIO write between slices, any slicing. -/
example (a v : U16) (c : Core) (hp : P c) :
    (execSteps [.run 100, .call (.mmioWrite a v), .run 28] c).map obs =
      (execSteps [.run 64, .run 36, .call (.mmioWrite a v), .run 0, .run 14, .run 14] c).map obs :=
  run_script_slicing _ _ (by simp [mergeSteps]) (by simp [cyclesOf]) c hp

end Teakra.Sys
