import TeakraModel.Mmio
import Proofs.Lemmas.BitSlot
/-!
# Bit-field cells: what an overlay shows under a mask

`bfGet s pos len g` overlays `g` on the bits `[pos, pos+len)` of `s`; `bitSlot` is the one-bit case with a `Bool`.
Two facts carry every bit-field register: overlaying what is already there changes nothing (`bfGet_self`), and an
overlay outside a mask is invisible under the mask (`bitSlot_and`, in `Lemmas/BitSlot.lean`).

The masks of the `_mask` lemmas are those of `Cell.kind` (`TeakraModel/MmioKinds.lean`): the complement of the bits of the
cell that only have a getter (status bits); `bind_mask_eq_model` (`Proofs/C12Bind.lean`) ties them to the slots of
`src/mmio.cpp`.
-/
namespace Teakra

theorem bfGet_self (v : U16) (pos len : Nat) : bfGet v pos len (bfField v pos len) = v := by
  unfold bfGet bfField
  generalize ((1 : U16) <<< len) - 1 = m
  ext i hi
  simp only [BitVec.getElem_or, BitVec.getElem_and, BitVec.getElem_not, BitVec.getElem_shiftLeft,
    BitVec.getElem_ushiftRight]
  by_cases h : i < pos
  · simp [h]
  · have : pos + (i - pos) = i := by omega
    simp only [h, this, BitVec.getLsbD_eq_getElem hi]
    cases v[i] <;> cases m[i - pos] <;> simp

theorem bfGet_one_bool (s : U16) (pos : Nat) (b : Bool) : bfGet s pos 1 (if b then 1 else 0) = bitSlot s pos b := by
  simp [bfGet, bitSlot]

theorem statusD6_mask (v : U16) (cpu dsp : Apbp) : statusD6 v cpu dsp &&& 0xCC1F = v &&& 0xCC1F := by
  simp [statusD6, bitSlot_and]

theorem statusD8_mask (v : U16) (cpu dsp : Apbp) : statusD8 v cpu dsp &&& 0x01FF = v &&& 0x01FF := by
  simp [statusD8, bitSlot_and]

theorem btStatus_mask (v : U16) (x : Btdmp) : btCellRead x v .status &&& 0xFFE7 = v &&& 0xFFE7 := by
  simp only [btCellRead, Btdmp.getTransmitFull, Btdmp.getTransmitEmpty, bfGet_one_bool]
  simp [bitSlot_and]

/-- Bit 10 of a timer control word (`0xFBFF` is its `Cell.kind` mask): the restart bit, which has a setter and a getter
that returns 0. -/
theorem bfGet_zero_mask (v : U16) : bfGet v 10 1 0 &&& 0xFBFF = v &&& 0xFBFF := by
  rw [show (0 : U16) = if false then 1 else 0 from rfl, bfGet_one_bool]
  simp [bitSlot_and]

end Teakra
