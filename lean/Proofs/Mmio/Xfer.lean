import TeakraModel.Dma
import Proofs.Lemmas.Except
/-!
# Outcomes of the `R` monad, and one walk through `DmaChannel.xfer`

`R.Sat x P Q`: every abort of `x` satisfies `P`, every successful outcome satisfies `Q`; one rule per construct of the
`do` blocks (`ok` also serves `pure`).  `DmaChannel.xfer_sat` walks the element move of `Tick` once and yields both facts the development needs
of it: it aborts with `oob` only, and it leaves the configuration registers of the AHBM (`Ahbm.cfg`) alone.
`DmaChannel.run_keeps` is the loop principle for `DmaChannel.run`: what one element move followed by `advance` keeps,
a successful run keeps (C12 states its DMA frame with it).
-/
namespace Teakra

def R.Sat {α : Type} (x : R α) (P : Abort → Prop) (Q : α → Prop) : Prop :=
  (∀ a, x = .ok a → Q a) ∧ (∀ e, x = .error e → P e)

namespace R.Sat
variable {α β : Type} {P : Abort → Prop}

theorem ok {a : α} {Q : α → Prop} (h : Q a) : R.Sat (.ok a) P Q :=
  ⟨fun _ e => by cases e; exact h, nofun⟩

theorem error {e : Abort} {Q : α → Prop} (h : P e) : R.Sat (.error e : R α) P Q :=
  ⟨nofun, fun _ e' => by cases e'; exact h⟩

theorem bind {x : R α} {f : α → R β} {Q : α → Prop} {Q' : β → Prop}
    (hx : x.Sat P Q) (hf : ∀ a, Q a → (f a).Sat P Q') : R.Sat (x >>= f) P Q' :=
  ⟨fun b h => let ⟨a, h1, h2⟩ := Except.bind_eq_ok.mp h; (hf a (hx.1 a h1)).1 b h2,
   fun e h => (Except.bind_eq_error.mp h).elim (hx.2 e) fun ⟨a, h1, h2⟩ => (hf a (hx.1 a h1)).2 e h2⟩

theorem ite {p : Prop} [Decidable p] {x y : R α} {Q : α → Prop} (hx : x.Sat P Q) (hy : y.Sat P Q) :
    R.Sat (if p then x else y) P Q := by split <;> assumption

theorem mono {x : R α} {Q Q' : α → Prop} (hx : x.Sat P Q) (h : ∀ a, Q a → Q' a) : x.Sat P Q' :=
  ⟨fun a ha => h a (hx.1 a ha), hx.2⟩

end R.Sat

/-- The configuration registers of an AHBM channel (the burst queue and `writeBurstStart` are left out). -/
def AhbmChannel.cfg (c : AhbmChannel) : U16 × U16 × U16 × U16 := (c.unitSize, c.burstSize, c.direction, c.dmaChannel)
/-- Everything of the AHBM that MMIO can read. -/
def Ahbm.cfg (a : Ahbm) : U16 × (U16 × U16 × U16 × U16) × (U16 × U16 × U16 × U16) × (U16 × U16 × U16 × U16) :=
  (a.busyFlag, a.ch0.cfg, a.ch1.cfg, a.ch2.cfg)

theorem Ahbm.cfg_setCh (a : Ahbm) (k : Nat) (c : AhbmChannel) (h : c.cfg = (a.getCh k).cfg) :
    (a.setCh k c).cfg = a.cfg := by
  unfold Ahbm.setCh Ahbm.getCh at *
  split <;> simp_all [Ahbm.cfg]

theorem AhbmChannel.cfg_read32 (rd : ExtRead) (c : AhbmChannel) (a : U32) : (c.read32 rd a).1.cfg = c.cfg := by
  unfold AhbmChannel.read32
  split <;> (split <;> rfl)

theorem AhbmChannel.cfg_writeInternal (c : AhbmChannel) (a v : U32) : (c.writeInternal a v).1.cfg = c.cfg := by
  unfold AhbmChannel.writeInternal
  dsimp only
  split <;> (split <;> rfl)

/-- The four accessors of `Ahbm` have one shape: run a channel operation on channel `ch` and put the channel back. -/
theorem Ahbm.withCh_sat {α : Type} (a : Ahbm) (ch : U16) (f : AhbmChannel → AhbmChannel × α)
    (hf : ∀ c, (f c).1.cfg = c.cfg) :
    (Ahbm.withCh ch (fun k => .ok (a.setCh k (f (a.getCh k)).1, (f (a.getCh k)).2))).Sat (· = .oob)
      (fun r => r.1.cfg = a.cfg) := by
  unfold Ahbm.withCh
  exact .ite (.ok (Ahbm.cfg_setCh _ _ _ (hf _))) (.error rfl)

section
variable {M E : Type} [DspMem M] [ExtMem E]

omit [ExtMem E] in
theorem dspRead_sat (w : World M E) (a : U32) : (dspRead w a).Sat (· = .oob) (fun _ => True) := by
  unfold dspRead
  split
  · exact .ok trivial
  · exact .error rfl

omit [ExtMem E] in
theorem dspWrite_sat (w : World M E) (a : U32) (v : U16) : (dspWrite w a v).Sat (· = .oob) (fun w' => w'.ahbm = w.ahbm) := by
  unfold dspWrite
  split
  · exact .ok rfl
  · exact .error rfl

theorem DmaChannel.xfer_sat (c : DmaChannel) (w : World M E) :
    (c.xfer w).Sat (· = .oob) (fun w' => w'.ahbm.cfg = w.ahbm.cfg) := by
  have wr : ∀ (w1 : World M E) a v, w1.ahbm.cfg = w.ahbm.cfg →
      (dspWrite w1 a v).Sat (· = .oob) (fun w' => w'.ahbm.cfg = w.ahbm.cfg) :=
    fun w1 a v h1 => (dspWrite_sat w1 a v).mono fun w' e => by rw [e, h1]
  unfold xfer
  refine .ite (.bind (Q := fun r => r.2.ahbm.cfg = w.ahbm.cfg) ?_ ?_) (.bind (Q := fun r => r.2.ahbm.cfg = w.ahbm.cfg) ?_ ?_)
  · refine .ite (.bind (dspRead_sat _ _) fun _ _ => .bind (dspRead_sat _ _) fun _ _ => .ok rfl) (.ite ?_ (.ok rfl))
    exact .bind (Ahbm.withCh_sat _ _ (·.read32 _ _) (AhbmChannel.cfg_read32 _ · _)) fun _ hr => .ok hr
  · intro ⟨value, w1⟩ h1
    refine .ite (.bind (wr w1 _ _ h1) fun w2 h2 => wr w2 _ _ h2) (.ite ?_ (.ok h1))
    exact .bind (Ahbm.withCh_sat _ _ (·.write32 _ _) (AhbmChannel.cfg_writeInternal · _ _)) fun _ hr => .ok (hr.trans h1)
  · refine .ite (.bind (dspRead_sat _ _) fun _ _ => .ok rfl) (.ite ?_ (.ok rfl))
    -- `cfg_read32` serves `read16` (as `cfg_writeInternal` serves `write16` / `write32`): the channel `read16` returns
    -- is that of `read32` by unfolding
    exact .bind (Ahbm.withCh_sat _ _ (·.read16 _ _) (AhbmChannel.cfg_read32 _ · _)) fun _ hr => .ok hr
  · intro ⟨value, w1⟩ h1
    refine .ite (wr w1 _ _ h1) (.ite ?_ (.ok h1))
    exact .bind (Ahbm.withCh_sat _ _ (·.write16 _ _) (AhbmChannel.cfg_writeInternal · _ _)) fun _ hr => .ok (hr.trans h1)

theorem DmaChannel.run_keeps (I : DmaChannel → World M E → Prop)
    (tick : ∀ (c : DmaChannel) (w w' : World M E), c.xfer w = .ok w' → I c w → I c.advance w') :
    ∀ (fuel : Nat) (c : DmaChannel) (w : World M E) (r : DmaChannel × World M E), c.run fuel w = .ok r → I c w → I r.1 r.2
  | 0, c, w, r, h => by
    unfold run at h
    split at h <;> cases h
    exact id
  | fuel + 1, c, w, r, h => by
    unfold run DmaChannel.tick at h
    split at h
    · cases h; exact id
    · cases hx : c.xfer w with
      | error e => simp [hx] at h
      | ok w1 =>
        simp only [hx] at h
        exact fun hi => run_keeps I tick fuel _ _ r h (tick c w w1 hx hi)
end

end Teakra
