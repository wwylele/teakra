import TeakraModel.Bus
/-!
# A cell write, taken apart

`Bus.cellWrite` works on the peripheral object of the cell's block and on the cell's own storage word; three cells
(`TIMERx_EW`, the semaphore mask, the DMA start) also raise an interrupt, which changes the ICU's request word
(`Periph.raiseN_fst`), and the DMA start moves memory (`cellWrite_mem`).  It can fail in the timer and DMA blocks only;
`cellWrite_timer`, `cellWrite_dma`, `cellWrite_dmaZ` turn a successful write there into a successful block write.  In
every other block the write computes to `.ok` of a record, and `cases` on a successful write puts that record in for the new
state.
-/
namespace Teakra

namespace Periph

theorem raiseN_fst (irq : Nat) : ∀ (n : Nat) (p : Periph),
    (p.raiseN irq n).1 = { p with icu := { p.icu with request := (p.raiseN irq n).1.icu.request } }
  | 0, _ => rfl
  | n + 1, p => by
    show ((p.raise irq).1.raiseN irq n).1 = _
    rw [raiseN_fst irq n]; rfl

theorem raiseIf_fst (p : Periph) (f : Bool) (irq : Nat) :
    (p.raiseIf f irq).1 = { p with icu := { p.icu with request := (p.raiseIf f irq).1.icu.request } } := by
  cases f <;> rfl

end Periph

namespace Bus
variable {b b' : Bus} {off : Fin mmioSize} {v : U16} {ev : List PEvent}

theorem cellWrite_timer {i : Fin 2} {tc : TimerCell} (h : b.cellWrite off v (.timer i tc) = .ok (b', ev)) :
    ∃ t st f r, b.per.timer[i].cellWrite b.per.store[off] tc v = .ok (t, st, f) ∧
      b' = { b with per := { b.per with timer := (b.per.timer.set i t), store := (b.per.store.set off st)
                                        icu := { b.per.icu with request := r } } } ∧
      (f = false → r = b.per.icu.request ∧ ev = []) := by
  simp only [Bus.cellWrite] at h
  split at h
  · cases h
  · rename_i t st f hw
    rw [Periph.raiseIf_fst] at h
    cases h
    exact ⟨t, st, f, _, hw, rfl, fun e => by subst e; exact ⟨rfl, rfl⟩⟩

theorem cellWrite_dma {dc : DmaCell} (hz : dc ≠ .z) (h : b.cellWrite off v (.dma dc) = .ok (b', ev)) :
    ∃ d st, dmaCellWrite b.per.dma b.per.store[off] dc v = .ok (d, st) ∧
      b' = { b with per := { b.per with dma := d, store := b.per.store.set off st } } ∧ ev = [] := by
  simp only [Bus.cellWrite] at h
  split at h
  · cases h
  · cases h; exact ⟨_, _, ‹_›, rfl, rfl⟩

theorem cellWrite_dmaZ (h : b.cellWrite off v (.dma .z) = .ok (b', ev)) :
    ∃ d w' n, b.per.dma.setZ ({ mem := b.mem, ahbm := b.per.ahbm, ext := b.ext, log := [] } : World Mem ExtSt) v = .ok (d, w', n) ∧
      b' = { b with mem := w'.mem, ext := w'.ext,
                    per := (({ b.per with dma := d, ahbm := w'.ahbm } : Periph).raiseN irqDma n).1 } := by
  simp only [Bus.cellWrite] at h
  split at h
  · cases h
  · cases h; exact ⟨_, _, _, ‹_›, rfl⟩

theorem cellWrite_mem {c : Cell} (h : b.cellWrite off v c = .ok (b', ev)) (hz : c ≠ .dma .z) :
    b'.mem = b.mem ∧ b'.ext = b.ext := by
  cases c
  case timer i tc => obtain ⟨t, st, f, r, -, rfl, -⟩ := cellWrite_timer h; exact ⟨rfl, rfl⟩
  case dma dc => obtain ⟨d, st, -, rfl, -⟩ := cellWrite_dma (fun e => hz (e ▸ rfl)) h; exact ⟨rfl, rfl⟩
  all_goals (cases h; exact ⟨rfl, rfl⟩)

/-! ## `MMIORegion::Read` / `Write` on an offset inside the region -/

theorem mmioWrite_eq (b : Bus) (o v : U16) (h : o.toNat < mmioSize) :
    b.mmioWrite o v = b.cellWrite ⟨o.toNat, h⟩ v (cellAt o.toNat) := by
  unfold mmioWrite; simp [h]

theorem mmioRead_eq (b : Bus) (o : U16) (h : o.toNat < mmioSize) :
    b.mmioRead o = match b.cellReadVal ⟨o.toNat, h⟩ (cellAt o.toNat) with
      | .ok v => .ok (v, b.cellReadState ⟨o.toNat, h⟩ (cellAt o.toNat), [])
      | .error e => .error e := by
  unfold mmioRead; rw [dif_pos h]
  generalize b.cellReadVal ⟨o.toNat, h⟩ (cellAt o.toNat) = x
  cases x <;> rfl

theorem mmioWrite_ok {o : U16} (h : b.mmioWrite o v = .ok (b', ev)) :
    ∃ ho : o.toNat < mmioSize, b.cellWrite ⟨o.toNat, ho⟩ v (cellAt o.toNat) = .ok (b', ev) := by
  unfold mmioWrite at h
  split at h
  · exact ⟨‹_›, h⟩
  · cases h

theorem mmioRead_ok {o r : U16} (h : b.mmioRead o = .ok (r, b', ev)) :
    ∃ ho : o.toNat < mmioSize, b.cellReadVal ⟨o.toNat, ho⟩ (cellAt o.toNat) = .ok r ∧
      b' = b.cellReadState ⟨o.toNat, ho⟩ (cellAt o.toNat) ∧ ev = [] := by
  unfold mmioRead at h
  split at h
  · split at h <;> cases h
    exact ⟨‹_›, ‹_›, rfl, rfl⟩
  · cases h

end Bus

end Teakra
