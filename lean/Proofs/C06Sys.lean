import Proofs.C06Sys.SelfBranch
import Proofs.C06Sys.Ticks
import Proofs.Cycle.Poll
/-!
# C06 — `Run(n)` equals `n` single cycles on the concrete machine (`Sys.ops true`)

The obligations of `Proofs/C06.lean` (`FastForwardOk`, `ObsOk`) discharged for `Sys.ops true`
(`TeakraModel/Sys.lean`), hence `run_eq_steps` and `run_partition` for the concrete core + bus: the
loop body on a self-branch is `cycle_brr` followed by `interruptCheck_noop`, `k` ticks inside the
horizon are `ticksN_quiet`, and `CoreTiming::Skip` is `skip_eq_ticked`.
-/
namespace Teakra.Sys
open Exec ExecLemmas Interp

/-- The invariant: an idle core sits on a plain self-branch, the audio ports satisfy their flag and
clock invariants, the timers are in a configuration `Timer::Tick` accepts. -/
def P (c : Core) : Prop :=
  idleOk c = true ∧ periphOk c.bus = true ∧ Timer.WF (c.bus.per.timer[0]) ∧ Timer.WF (c.bus.per.timer[1])

theorem P_busOk {c : Core} (h : P c) : BusOk c.bus := h.2

theorem brrSelf_of_idleOk {c : Core} (h : idleOk c = true) (hi : c.idle = true) : brrSelf c = true := by
  unfold idleOk at h
  simpa [hi] using h

theorem brrSelf_congr (c c' : Core) (hr : c'.regs = c.regs) (hm : c'.bus.mem = c.bus.mem) :
    brrSelf c' = brrSelf c := by
  unfold brrSelf Bus.programRead
  simp only [condHolds_eq, hr, hm]

theorem idleOk_congr (c c' : Core) (hr : c'.regs = c.regs) (hm : c'.bus.mem = c.bus.mem) (hi : c'.idle = c.idle) :
    idleOk c' = idleOk c := by
  unfold idleOk
  rw [brrSelf_congr c c' hr hm, hi]

theorem BusOk_congr {b b' : Bus} (ht : b'.per.timer = b.per.timer) (ha : b'.per.btdmp = b.per.btdmp) :
    BusOk b' ↔ BusOk b := by
  unfold BusOk periphOk
  rw [ht, ha]

theorem Bus.tick_ok (b b' : Bus) (evs : List PEvent) (hp : periphOk b = true) (h : b.tick = .ok (b', evs)) :
    BusOk b ∧ b'.mem = b.mem ∧ b'.per.timer = (tickedBus 1 b).per.timer ∧
      b'.per.btdmp = (tickedBus 1 b).per.btdmp := by
  have hq : BusOk b := by
    refine ⟨hp, ?_⟩
    unfold Bus.tick at h
    split at h
    · cases h
    · rename_i t0 f0 h0
      simp only [] at h
      split at h
      · cases h
      · rename_i t1 f1 h1
        -- the second timer is read through the first one's update and its interrupt
        rw [Periph.raiseIf_fst] at h1
        simp only [vec2_set0_get1] at h1
        exact ⟨(Timer.WF_of_tick h0).1, (Timer.WF_of_tick h1).1⟩
  obtain ⟨icu, evs', h'⟩ := Bus.tick_spec b hq.2.1 hq.2.2
  cases h.symm.trans h'
  -- `rfl` would unfold `ticksCore 1` the slow way
  simp only [hq, tickedBus, Timer.ticksCore, Btdmp.ticksCore, and_self]

/-- A successful tick re-establishes the invariant from `idleOk` alone (the tick itself checks the
audio ports and the timers). -/
theorem tick_P (c c' : Core) (hid : idleOk c = true) (h : tick c = .ok c') : P c' := by
  have hp := (tick_spec c c' h).1
  obtain ⟨hregs, _, hidle, evs, hb, _⟩ := liftBus_frame _ c c' (tick_of_periphOk hp ▸ h)
  obtain ⟨hq, hm, ht, ha⟩ := Bus.tick_ok _ _ _ hp hb
  exact ⟨(idleOk_congr c c' hregs hm hidle).trans hid, (BusOk_congr ht ha).2 (BusOk_tickedBus 1 c.bus hq)⟩

theorem body_idleOk (s s1 : Core) (h : body s = .ok s1) : idleOk s1 = true := by
  unfold body at h
  split at h
  · cases h
  · simp only [] at h
    split at h
    · rename_i hi
      injection h with h
      rw [← h]; exact hi
    · cases h

theorem noLatch_spec (c : Core) (h : noLatch c = true) :
    c.vpend = false ∧ c.ipend = Vector.replicate 3 false ∧ latchAll c = c.regs := by
  unfold noLatch at h
  simp only [Bool.and_eq_true, Bool.not_eq_true', toArray_getD _ _ (show 0 < 3 by omega),
    toArray_getD _ _ (show 1 < 3 by omega), toArray_getD _ _ (show 2 < 3 by omega)] at h
  obtain ⟨⟨⟨hv, h0⟩, h1⟩, h2⟩ := h
  have hi : c.ipend = Vector.replicate 3 false := by
    apply Vector.ext
    intro i hi
    match i, hi with
    | 0, _ => rw [h0]; simp
    | 1, _ => rw [h1]; simp
    | 2, _ => rw [h2]; simp
  exact ⟨hv, hi, congrArg Core.regs (latched_of_noLatch c hi hv)⟩

/-- The interrupt block run after a self-branch in a state without latches leaves the state alone;
so the loop body is the identity. -/
theorem idle_body (s : Core) (hp : P s) (hs : (ops true).skipAllowed s = true) : body s = .ok s := by
  have hs' : s.idle = true ∧ noLatch s = true := by
    simpa [ops] using hs
  obtain ⟨hidle, hnl⟩ := hs'
  obtain ⟨w, accs, hread, hw, hcond, hrep, hloop, hdel⟩ := brrSelf_spec s (brrSelf_of_idleOk hp.1 hidle)
  obtain ⟨hv, hip, hla⟩ := noLatch_spec s hnl
  have hpre : pre s accs = { s with log := accs.reverse ++ s.log } := by
    unfold pre
    rw [hla, ← hip, ← hv, ← hidle]
  have hcyc := cycle_brr s w accs hread hw hcond hrep hloop
  rw [hpre, interruptCheck_noop ({ s with log := accs.reverse ++ s.log } : Core) hdel] at hcyc
  unfold body
  rw [hcyc]
  simp only []
  have : ({ ({ s with log := accs.reverse ++ s.log } : Core) with log := s.log } : Core) = s := rfl
  rw [this, hp.1]
  rfl

/-- The obligations of `Proofs/C06.lean` for the concrete machine with the `fix:` commit.  `bound`: a skip of
`k < 2 ^ 63` cycles keeps the `u64` sum `future_timer = transmit_timer + k` of `Btdmp::Skip` (`transmit_timer` is a `u16`)
from wrapping, which `Btdmp.skip_eq_ticks` needs over an infinite horizon (`bus_skip_eq`). -/
def ffOk : LoopOps.FastForwardOk (ops true) where
  P := P
  bound := 2 ^ 63
  horizon := fun c => c.bus.maxSkip
  P_tick := fun s s' hp h => tick_P s s' hp.1 h
  P_cycle := fun s s1 s2 _ hb ht => tick_P s1 s2 (body_idleOk s s1 hb) ht
  skip_eq := by
    intro s m hp _ hm
    show skip s m = _
    rw [skip_eq_ticked s hp.2 m hm, ticksN_quiet true _ s hp.2 (Nat.min_le_right _ _)]
    rfl
  quiet := by
    intro s hp hs j hj s' h
    rw [ticksN_quiet true j s hp.2 hj] at h
    injection h with h
    rw [← h]
    exact hs
  idle_body := idle_body

/-- Observation: everything except the idle flag (which `Run` re-initialises). -/
def obs (c : Core) : Core := { c with idle := false }

theorem obs_eq (s t : Core) (h : obs s = obs t) : ∃ b, t = { s with idle := b } := by
  cases s; cases t
  simp only [obs, Core.mk.injEq] at h
  obtain ⟨h1, h2, h3, h4, h5, h6, h7, h8, _⟩ := h
  subst h1 h2 h3 h4 h5 h6 h7 h8
  exact ⟨_, rfl⟩

theorem congr_of_idleBlind (f : Core → Except Stop Core)
    (hf : ∀ s b, f { s with idle := b } = (f s).map fun c => { c with idle := b }) (s t : Core)
    (h : obs s = obs t) : (f s).map obs = (f t).map obs := by
  obtain ⟨b, rfl⟩ := obs_eq s t h
  rw [hf s b]
  cases f s <;> rfl

theorem liftBus_idle (f : Bus → R (Bus × List PEvent)) (s : Core) (b : Bool) :
    liftBus f { s with idle := b } = (liftBus f s).map fun c => { c with idle := b } := by
  unfold liftBus
  show (match f s.bus with | .ok (b', evs) => _ | .error e => _) = _
  cases hf : f s.bus with
  | error e => rfl
  | ok r =>
    obtain ⟨b', evs⟩ := r
    simp only [Except.map]
    rw [Core.emit_eq, Core.emit_eq]
    rfl

theorem tick_idle (s : Core) (b : Bool) :
    tick { s with idle := b } = (tick s).map fun c => { c with idle := b } := by
  by_cases hp : periphOk s.bus = true
  · rw [tick_of_periphOk hp, tick_of_periphOk (c := { s with idle := b }) hp, liftBus_idle]
  · unfold tick
    rw [if_neg hp, if_neg hp]
    rfl

theorem tick_congr (s t : Core) (h : obs s = obs t) : (tick s).map obs = (tick t).map obs :=
  congr_of_idleBlind tick tick_idle s t h

/-- On a self-branch the loop body does not depend on the incoming `idle` flag (the branch sets it). -/
theorem body_idle_irrelevant (s : Core) (b : Bool) (hbrr : brrSelf s = true) :
    body { s with idle := b } = body s := by
  obtain ⟨w, accs, hread, hw, hcond, hrep, hloop, _⟩ := brrSelf_spec s hbrr
  have h1 := cycle_brr s w accs hread hw hcond hrep hloop
  have h2 := cycle_brr { s with idle := b } w accs hread hw hcond hrep hloop
  have hpre : pre { s with idle := b } accs = pre s accs := rfl
  rw [hpre] at h2
  unfold body
  rw [h1, h2]

theorem body_congr (s t : Core) (hps : P s) (hpt : P t) (h : obs s = obs t) :
    (body s).map obs = (body t).map obs := by
  obtain ⟨b, rfl⟩ := obs_eq s t h
  by_cases hsb : s.idle = b
  · subst hsb; rfl
  · have hbrr : brrSelf s = true := by
      cases hsi : s.idle with
      | true => exact brrSelf_of_idleOk hps.1 hsi
      | false =>
        have hbt : b = true := by
          cases b with
          | true => rfl
          | false => exact absurd hsi hsb
        exact (brrSelf_congr s ({ s with idle := b } : Core) rfl rfl).symm.trans (brrSelf_of_idleOk hpt.1 hbt)
    rw [body_idle_irrelevant s b hbrr]

theorem obsOk : LoopOps.ObsOk (ops true) ffOk obs where
  start_obs := fun _ => rfl
  P_start := fun _ hp => ⟨rfl, hp.2⟩
  body_congr := body_congr
  tick_congr := tick_congr

/-- **`Run(n)` is `n` single steps** on the concrete machine, for every `n ≤ 2^63`, from every
state whose peripherals are inside the modelled envelope. -/
theorem run_eq_steps (n : Nat) (hn : n ≤ 2 ^ 63) (c : Core) (hp : P { c with idle := false }) :
    (ops true).run n c = (ops true).cyclesN n { c with idle := false } :=
  LoopOps.run_eq_cycles ffOk n hn c hp

/-- **Every partition of the budget** gives the same observable result as one call. -/
theorem run_partition (ns : List Nat) (hb : ns.sum ≤ 2 ^ 63) (c : Core) (hp : P c) :
    (LoopOps.runSlices (ops true) ns c).map obs = ((ops true).run ns.sum c).map obs :=
  LoopOps.run_partition ffOk obsOk ns hb c hp

/-- The reset state satisfies the invariant (and so does the upstream witness, `P_upstreamWitness`). -/
example : P {} := ⟨rfl, by decide, by decide, by decide⟩

end Teakra.Sys
