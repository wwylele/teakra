import TeakraModel.Timer
import Proofs.Lemmas.Except
/-!
# C15 — timers count, fire and reload exactly per mode, and fast-forward is exact

Property theorems about `Teakra.Timer` (model of `src/timer.cpp`); the tie to the C++ is the
`timer` correspondence slice.

Everything rests on two facts: the only change `Tick`, `TickEvent`, `Restart` and `Skip` ever make
is `setCounter` (the counter takes a value, the mirror follows), and `Tick` splits into the same
cases as `Skip` and `GetMaxSkip` (`tickCore_eq`).
-/
namespace Teakra.Timer

/-- States on which `Timer::Tick` does not trip its two `ASSERT`s. -/
def WF (t : Timer) : Prop := t.countMode < 4 ∧ t.scale = 0
instance : DecidablePred WF := fun _ => inferInstanceAs (Decidable (_ ∧ _))

/-- "running": not paused and not in event-count mode. -/
def Running (t : Timer) : Prop := t.pause = 0 ∧ t.countMode ≠ 3
instance : DecidablePred Running := fun _ => inferInstanceAs (Decidable (_ ∧ _))

/-- `k` calls of `Tick` (guards included), counting interrupt-handler invocations. -/
def ticks : Nat → Timer → R (Timer × Nat)
  | 0, t => .ok (t, 0)
  | k + 1, t => do
      let (t', irq) ← tick t
      let (t'', n) ← ticks k t'
      pure (t'', n + irq.toNat)

theorem tickOk_iff (t : Timer) : tickOk t = true ↔ WF t := by
  simp [tickOk, WF]

theorem tick_of_WF {t : Timer} (h : WF t) : tick t = .ok (tickCore t) :=
  if_pos ((tickOk_iff t).mpr h)

theorem WF_of_tick {t : Timer} {r : Timer × Bool} (h : tick t = .ok r) : WF t ∧ r = tickCore t := by
  unfold tick at h
  split at h
  · exact ⟨(tickOk_iff t).mp ‹_›, (Except.ok.inj h).symm⟩
  · cases h

/-! ## the one state change -/

/-- The counter takes a new value and the mirror follows it (when mirror updating is on). -/
abbrev setCounter (t : Timer) (c : U32) : Timer := updateMMIO { t with counter := c }

theorem updateMMIO_counter (t : Timer) : (updateMMIO t).counter = t.counter := by
  unfold updateMMIO; split <;> rfl

/-- The control fields: everything but the counter and its mirror.  `Tick`, `TickEvent` and `Restart` never write
them, and `WF` and `Running` read nothing else. -/
def ctl (t : Timer) : List U16 := [t.updateMmio, t.pause, t.countMode, t.scale, t.startHigh, t.startLow]

theorem updateMMIO_ctl (t : Timer) : (updateMMIO t).ctl = t.ctl := by
  unfold updateMMIO; split <;> rfl

theorem setCounter_ctl (t : Timer) (c : U32) : (setCounter t c).ctl = t.ctl := updateMMIO_ctl _

theorem setCounter_setCounter (t : Timer) (c c' : U32) : setCounter (setCounter t c) c' = setCounter t c' := by
  unfold setCounter updateMMIO; split <;> simp_all

theorem WF_congr {t t' : Timer} (h : t'.ctl = t.ctl) (hw : WF t) : WF t' := by
  simp only [ctl, List.cons.injEq] at h
  exact ⟨h.2.2.1 ▸ hw.1, h.2.2.2.1 ▸ hw.2⟩

private theorem Running_setCounter {t : Timer} (hr : Running t) (c : U32) : Running (setCounter t c) := by
  have h := setCounter_ctl t c
  simp only [ctl, List.cons.injEq] at h
  exact ⟨h.2.1 ▸ hr.1, h.2.2.1 ▸ hr.2⟩

private theorem pred_eq_zero (c : U32) : c - 1 = 0 ↔ c = 1 := BitVec.sub_eq_iff_eq_add

/-- **`Tick` in the case form of `Skip` and `GetMaxSkip`**: idle when paused or counting events;
at zero, auto-restart and free-running reload and single mode stays; otherwise one down, and the
interrupt on reaching zero. -/
theorem tickCore_eq (t : Timer) :
    tickCore t =
      if t.pause ≠ 0 ∨ t.countMode = 3 then (t, false)
      else if t.counter = 0 then
        if t.countMode = 1 ∨ t.countMode = 2 then (setCounter t (reloadValue t), false) else (t, false)
      else (setCounter t (t.counter - 1), decide (t.counter = 1)) := by
  unfold tickCore
  by_cases hp : t.pause ≠ 0
  · rw [if_pos hp, if_pos (.inl hp)]
  by_cases he : t.countMode = 3
  · rw [if_neg hp, if_pos he, if_pos (.inr he)]
  rw [if_neg hp, if_neg he, if_neg (not_or.mpr ⟨hp, he⟩)]
  by_cases hc : t.counter = 0
  · rw [if_pos hc, if_pos hc]
    by_cases h1 : t.countMode = 1
    · simp [h1, restartCore, reloadValue, setCounter]
    by_cases h2 : t.countMode = 2
    · simp [h2, reloadValue, setCounter]
    rw [if_neg h1, if_neg h2, if_neg (not_or.mpr ⟨h1, h2⟩)]
  · rw [if_neg hc, if_neg hc]
    show (setCounter t (t.counter - 1), decide ((setCounter t (t.counter - 1)).counter = 0)) = _
    rw [updateMMIO_counter]
    congr 1; rw [decide_eq_decide]; exact pred_eq_zero _

private theorem not_idle {t : Timer} (hr : Running t) : ¬ (t.pause ≠ 0 ∨ t.countMode = 3) :=
  fun h => h.elim (· hr.1) hr.2

theorem tickCore_ctl (t : Timer) : (tickCore t).1.ctl = t.ctl := by
  rw [tickCore_eq]
  repeat' split
  all_goals first | rfl | exact setCounter_ctl t _

theorem tickEvent_ctl (t : Timer) : t.tickEvent.1.ctl = t.ctl := by
  unfold tickEvent
  repeat' split
  all_goals first | rfl | exact setCounter_ctl t _

theorem restart_ctl (t t2 : Timer) (h : t.restart = .ok t2) : t2.ctl = t.ctl := by
  unfold restart at h
  split at h <;> cases h
  unfold restartCore
  split
  · exact setCounter_ctl t _
  · rfl

/-! ## per-cycle behaviour by mode -/

/-- A running timer with a non-zero counter decrements by exactly one and raises its interrupt
exactly when the counter goes from 1 to 0. -/
theorem tick_decrements (t : Timer) (hr : Running t) (hc : t.counter ≠ 0) :
    (tickCore t).1.counter = t.counter - 1 ∧ (tickCore t).2 = decide (t.counter = 1) := by
  rw [tickCore_eq, if_neg (not_idle hr), if_neg hc]
  exact ⟨updateMMIO_counter _, rfl⟩

/-- The interrupt is raised by a tick only on the 1 → 0 transition of a running timer. -/
theorem fires_iff (t : Timer) :
    (tickCore t).2 = true ↔ (t.pause = 0 ∧ t.countMode ≠ 3 ∧ t.counter = 1) := by
  rw [tickCore_eq]
  by_cases hi : t.pause ≠ 0 ∨ t.countMode = 3
  · rw [if_pos hi]; rcases hi with h | h <;> simp_all
  · rw [if_neg hi]; (repeat' split) <;> simp_all

/-- Single mode stops at zero (and stays silent). -/
theorem single_stops (t : Timer) (hm : t.countMode = 0) (hc : t.counter = 0) :
    tickCore t = (t, false) := by
  simp [tickCore_eq, hm, hc]

/-- Auto-restart reloads the start value on the cycle after reaching zero, silently. -/
theorem autorestart_reloads (t : Timer) (hr : Running t) (hm : t.countMode = 1) (hc : t.counter = 0) :
    (tickCore t).1.counter = t.startValue ∧ (tickCore t).2 = false := by
  simp [tickCore_eq, hr.1, hm, hc, updateMMIO_counter, reloadValue]

/-- Free-running wraps from zero to 0xFFFFFFFF, silently. -/
theorem freerunning_wraps (t : Timer) (hr : Running t) (hm : t.countMode = 2) (hc : t.counter = 0) :
    (tickCore t).1.counter = 0xFFFFFFFF ∧ (tickCore t).2 = false := by
  simp [tickCore_eq, hr.1, hm, hc, updateMMIO_counter, reloadValue]

/-- A paused timer holds every field, mirror included. -/
theorem paused_holds (t : Timer) (hp : t.pause ≠ 0) : tickCore t = (t, false) := by
  rw [tickCore_eq, if_pos (.inl hp)]

/-- In event-count mode cycles do nothing. -/
theorem eventcount_tick (t : Timer) (hm : t.countMode = 3) : tickCore t = (t, false) := by
  rw [tickCore_eq, if_pos (.inr hm)]

/-- In event-count mode each event write decrements once, firing on 1 → 0. -/
theorem eventcount_event (t : Timer) (hp : t.pause = 0) (hm : t.countMode = 3) (hc : t.counter ≠ 0) :
    (tickEvent t).1.counter = t.counter - 1 ∧ (tickEvent t).2 = decide (t.counter = 1) := by
  simp only [tickEvent, hp, hm, hc, ne_eq, not_true_eq_false, if_false, updateMMIO_counter, true_and]
  rw [decide_eq_decide]; exact pred_eq_zero _

/-- The MMIO mirror follows the counter whenever mirror updating is on and the counter moved. -/
theorem mirror_follows (t : Timer) (hu : t.updateMmio ≠ 0) (hr : Running t) (hc : t.counter ≠ 0) :
    (tickCore t).1.counterHigh = (tickCore t).1.counter.extractLsb' 16 16 ∧
    (tickCore t).1.counterLow = (tickCore t).1.counter.extractLsb' 0 16 := by
  rw [tickCore_eq, if_neg (not_idle hr), if_neg hc]
  simp_all [setCounter, updateMMIO]

/-! ## fast-forward -/

/-- `k` ticks without the guards, counting interrupts. -/
def ticksCore : Nat → Timer → Timer × Nat
  | 0, t => (t, 0)
  | k + 1, t => let r := ticksCore k (tickCore t).1; (r.1, r.2 + (tickCore t).2.toNat)

theorem WF_tickCore {t : Timer} (h : WF t) : WF (tickCore t).1 := WF_congr (tickCore_ctl t) h

theorem WF_ticksCore (k : Nat) : ∀ t, WF t → WF (ticksCore k t).1 := by
  induction k with
  | zero => intro t h; exact h
  | succ k ih => intro t h; exact ih _ (WF_tickCore h)

theorem ticksCore_succ_last (k : Nat) : ∀ t : Timer,
    ticksCore (k + 1) t =
      ((tickCore (ticksCore k t).1).1, (ticksCore k t).2 + (tickCore (ticksCore k t).1).2.toNat) := by
  induction k with
  | zero => intro t; simp [ticksCore]
  | succ k ih =>
    intro t
    rw [ticksCore, ih]
    simp only [ticksCore, Nat.add_right_comm]

/-- On well-formed timers the guarded and the unguarded iteration coincide. -/
theorem ticks_eq_core (k : Nat) : ∀ (t : Timer), WF t → ticks k t = .ok (ticksCore k t) := by
  induction k with
  | zero => intro t _; rfl
  | succ k ih =>
    intro t hw
    simp only [ticks, tick_of_WF hw, ih _ (WF_tickCore hw), ticksCore, bind, Except.bind, pure,
      Except.pure]

/-- Counting down without reaching zero: `k` ticks are one `setCounter` (none at all for `k = 0`:
even a zero-length `setCounter` would refresh a stale mirror). -/
private theorem ticks_down (k : Nat) : ∀ (t : Timer), Running t → k < t.counter.toNat →
    ticksCore k t = (if k = 0 then t else setCounter t (t.counter - BitVec.ofNat 32 k), 0) := by
  induction k with
  | zero => intro t _ _; rfl
  | succ k ih =>
    intro t hr hk
    have ht : tickCore t = (setCounter t (t.counter - 1), false) := by
      rw [tickCore_eq, if_neg (not_idle hr), if_neg (by intro h; rw [h] at hk; cases hk)]
      congr 1; rw [decide_eq_false_iff_not]; intro h; rw [h] at hk; simp at hk
    simp only [ticksCore, ht, ih _ (Running_setCounter hr (t.counter - 1)) (by rw [updateMMIO_counter]; bv_omega), updateMMIO_counter,
      setCounter_setCounter, Bool.toNat_false, Nat.add_zero, Nat.add_eq_zero_iff, Nat.one_ne_zero, and_false, if_false]
    by_cases hk0 : k = 0
    · subst hk0; rfl
    · rw [if_neg hk0, BitVec.sub_sub, Nat.add_comm k 1, BitVec.ofNat_add]; rfl

private theorem ticks_idle (k : Nat) (t : Timer) (h : tickCore t = (t, false)) :
    ticksCore k t = (t, 0) := by
  induction k with
  | zero => rfl
  | succ k ih => simp [ticksCore, h, ih]

/-- `skipOkGen true`, `skipCoreGen true`, `skipGen true`: the repaired `Timer::Skip`, which returns at
once for `ticks == 0`; `false` selects the upstream code (last section). -/
private theorem skip_core (t : Timer) (k : Nat) (hk : k ≤ maxSkip t) :
    skipOkGen true t k = true ∧ skipCoreGen true t k = (ticksCore k t).1 ∧ (ticksCore k t).2 = 0 := by
  by_cases hidle : t.pause ≠ 0 ∨ t.countMode = 3
  · simp only [skipOkGen, skipCoreGen, hidle, if_true, ticks_idle k t (by rw [tickCore_eq, if_pos hidle]), and_self]
  have hr : Running t := ⟨Classical.not_not.mp fun h => hidle (.inl h), fun h => hidle (.inr h)⟩
  by_cases hk0 : k = 0
  · subst hk0; simp [skipOkGen, skipCoreGen, ticksCore]
  unfold maxSkip at hk
  rw [if_neg hidle] at hk
  by_cases hc : t.counter = 0
  · rw [if_pos hc] at hk
    by_cases hm : t.countMode = 1 ∨ t.countMode = 2
    · -- the first tick reloads, the others count down from there
      obtain ⟨j, rfl⟩ := Nat.exists_eq_add_one_of_ne_zero hk0
      have hk' : j + 1 ≤ (reloadValue t).toNat := by
        unfold reloadValue; rcases hm with hm | hm <;> simp_all
      have ht : tickCore t = (setCounter t (reloadValue t), false) := by
        rw [tickCore_eq, if_neg hidle, if_pos hc, if_pos hm]
      have := ticks_down j _ (Running_setCounter hr (reloadValue t)) (by rw [updateMMIO_counter]; exact hk')
      simp only [skipOkGen, skipCoreGen, hidle, hk0, hc, hm, if_true, if_false, and_false, ticksCore, ht, this,
        updateMMIO_counter, setCounter_setCounter, decide_eq_true hk', true_and, Bool.toNat_false, Nat.add_zero,
        and_true]
      by_cases hj0 : j = 0
      · subst hj0; simp [setCounter]
      · rw [if_neg hj0, BitVec.ofNat_add]
        exact congrArg (fun c => setCounter t (reloadValue t - c)) (BitVec.add_sub_cancel ..)
    · simp only [skipOkGen, skipCoreGen, hidle, hk0, hc, hm, if_true, if_false, and_false,
        ticks_idle k t (by rw [tickCore_eq, if_neg hidle, if_pos hc, if_neg hm]), and_self]
  · rw [if_neg hc] at hk
    have hlt : k < t.counter.toNat := by
      have : t.counter.toNat ≠ 0 := fun h => hc (BitVec.eq_of_toNat_eq h)
      omega
    simp only [skipOkGen, skipCoreGen, hidle, hk0, hc, if_false, and_false, ticks_down k t hr hlt,
      decide_eq_true hlt, setCounter, and_self]

/-- **Fast-forward is exact.**  For every `k` up to the horizon the timer reports, `Skip(k)` trips no
assertion and yields exactly the state of `k` single `Tick`s, and those ticks raise no interrupt
(so the horizon never skips over an interrupt; `k = 0` changes nothing). -/
theorem skip_eq_ticks (t : Timer) (hw : WF t) (k : Nat) (hk : k ≤ maxSkip t) :
    skipGen true t k = .ok (ticksCore k t).1 ∧ (ticksCore k t).2 = 0 ∧
    ticks k t = .ok (ticksCore k t) := by
  have hcore := skip_core t k hk
  refine ⟨?_, hcore.2.2, ticks_eq_core k t hw⟩
  simp [skipGen, hcore.1, hcore.2.1]

/-- For the system-level fast-forward (`C06Sys/Ticks.lean`): the last of `k + 1` ticks within the
horizon raises no interrupt. -/
theorem last_tick_quiet (t : Timer) (k : Nat) (hk : k + 1 ≤ maxSkip t) :
    (tickCore (ticksCore k t).1).2 = false := by
  have h := (skip_core t (k + 1) hk).2.2
  rw [ticksCore_succ_last] at h
  exact Bool.toNat_eq_zero.mp (Nat.add_eq_zero_iff.mp h).2

/-! ## arbitrary interleavings of configuration writes, restarts, ticks, events and skips -/

/-- Operations a program or the core timing can apply to a timer.  Mode writes range over the
four documented modes (a write of 4…7 makes the next `Tick` abort on its `ASSERT`). -/
inductive Op where
  | tick | event | restart
  | skip (k : Nat)
  | setMode (m : Fin 4) | setPause (v : U16) | setUpdate (v : U16) | setStart (hi lo : U16)
  | setMirror (hi lo : U16)

/-- One operation; `fast = true` executes `skip k` with `Timer::Skip`, `fast = false` with `k`
single ticks.  A skip beyond the reported horizon is outside the contract (`CoreTiming::Skip`
never asks for it) and is reported as `oob` by both. -/
def step (fast : Bool) (t : Timer) : Op → R (Timer × Nat)
  | .tick => (tick t).map fun r => (r.1, r.2.toNat)
  | .event => .ok ((tickEvent t).1, (tickEvent t).2.toNat)
  | .restart => (restart t).map (·, 0)
  | .skip k =>
      if k ≤ maxSkip t then
        if fast then (skipGen true t k).map (·, 0) else ticks k t
      else .error .oob
  | .setMode m => .ok ({ t with countMode := BitVec.ofNat 16 m.val }, 0)
  | .setPause v => .ok ({ t with pause := v }, 0)
  | .setUpdate v => .ok ({ t with updateMmio := v }, 0)
  | .setStart hi lo => .ok ({ t with startHigh := hi, startLow := lo }, 0)
  | .setMirror hi lo => .ok ({ t with counterHigh := hi, counterLow := lo }, 0)

def run (fast : Bool) : List Op → Timer → R (Timer × Nat)
  | [], t => .ok (t, 0)
  | op :: ops, t => do
      let (t', n) ← step fast t op
      let (t'', m) ← run fast ops t'
      pure (t'', n + m)

private theorem step_false_WF (t : Timer) (hw : WF t) (op : Op) (r : Timer × Nat)
    (h : step false t op = .ok r) : WF r.1 := by
  cases op with
  | tick => simp only [step, tick_of_WF hw, Except.map] at h; cases h; exact WF_tickCore hw
  | event => cases h; exact WF_congr (tickEvent_ctl t) hw
  | restart =>
    simp only [step, restart, hw.1, if_true, Except.map] at h; cases h
    exact WF_congr (restart_ctl t _ (if_pos hw.1)) hw
  | skip k =>
    simp only [step] at h
    split at h
    · rw [if_neg Bool.false_ne_true, ticks_eq_core k t hw] at h; cases h; exact WF_ticksCore k t hw
    · cases h
  | setMode m =>
    cases h
    exact ⟨by show BitVec.ofNat 16 m.val < 4; have := m.isLt; bv_omega, hw.2⟩
  | setPause _ | setUpdate _ | setStart _ _ | setMirror _ _ => cases h; exact hw

private theorem step_fast_slow (t : Timer) (hw : WF t) (op : Op) : step true t op = step false t op := by
  cases op with
  | skip k =>
    simp only [step]
    split
    · rename_i hk
      obtain ⟨h1, h2, h3⟩ := skip_eq_ticks t hw k hk
      -- the 0 interrupts `Skip` reports are what the `k` ticks raised
      rw [if_pos trivial, if_neg Bool.false_ne_true, h1, h3, ← h2]
      rfl
    · rfl
  | _ => rfl

/-- **Fast-forward is unobservable in every history.**  Over any interleaving of mode / pause /
mirror-update / start writes, restarts, ticks, event writes and skips (each skip within the
horizon reported at that moment), executing the skips with `Timer::Skip` or as single ticks gives
the same final state, the same number of interrupts and the same abort behaviour. -/
theorem run_fast_eq_slow (ops : List Op) : ∀ (t : Timer), WF t → run true ops t = run false ops t := by
  induction ops with
  | nil => intro t _; rfl
  | cons op ops ih =>
    intro t hw
    simp only [run, step_fast_slow t hw op]
    exact Except.bind_congr_ok fun r h => by simp only [ih r.1 (step_false_WF t hw op r h)]

/-! ## the defect of the upstream `Skip` (D2 in DESIGN.md), kept as a proved witness -/

/-- With the upstream `Skip` (no early return for `ticks == 0`) a zero-length skip at counter 0
in auto-restart mode *does* change the counter: start value 5 becomes 6. -/
theorem upstream_skip_zero_counterexample :
    skipGen false { countMode := 1, startLow := 5 } 0 = .ok { countMode := 1, startLow := 5, counter := 6 } := by
  decide +kernel

/-- The upstream `Skip(0)` also refreshes a stale MMIO mirror although zero cycles elapsed. -/
theorem upstream_skip_zero_mirror_counterexample :
    skipGen false { updateMmio := 1, counter := 7 } 0 = .ok { updateMmio := 1, counter := 7, counterLow := 7 } := by
  decide +kernel

/-! ## non-vacuity: concrete states meeting the hypotheses -/

example : WF { countMode := 1, startLow := 5, counter := 3 } ∧
    Running { countMode := 1, startLow := 5, counter := 3 } ∧
    2 ≤ maxSkip { countMode := 1, startLow := 5, counter := 3 } := by decide +kernel
example : WF { countMode := 2 } ∧ maxSkip { countMode := 2 } = 0xFFFFFFFF := by decide +kernel
example : (ticksCore 6 { countMode := 1, startLow := 2, counter := 1 }).2 = 2 := by decide +kernel

end Teakra.Timer
