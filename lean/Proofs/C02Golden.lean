import TeakraModel.Generated.DecodeTable
import TeakraModel.Golden.DecodeTable
/-!
# C02 — the regenerated decode table equals the committed snapshot

The generator prints both files, so the two terms are the same text and `rfl` compares them without
evaluating anything.  Kept apart from `Proofs/C02.lean`: when `/repo/src/decoder.h` or `operand.h` changes, *this* module stops
building (and `checks/c02.py` reports which opcodes decode differently), while the theorems of
`Proofs.C02` are re-proved over the new table.
-/
namespace Teakra.Decode

theorem table_eq_golden : table = Golden.table := rfl

theorem operandTypes_eq_golden : operandTypes = Golden.operandTypes := rfl

theorem enums_eq_golden :
    operandEnum = Golden.operandEnum ∧ cnTypes = Golden.cnTypes ∧ enums = Golden.enums ∧
    expansionPos = Golden.expansionPos := ⟨rfl, rfl, rfl, rfl⟩

end Teakra.Decode
