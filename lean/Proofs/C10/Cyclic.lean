import Proofs.C10.Mod
/-!
# C10 — the walk through the buffer

In the coordinates (high part, offset `(a &&& lowMask mod).toNat`) every function met here leaves the
high part alone and translates the offset modulo the length `mod + 1` (`Shifts`): the cyclic successor
by `1`, the predecessor by `mod`.  Translations compose by adding, and one by a multiple of the length
is the identity; staying in the buffer, the inverses and the period are read off from that.
-/
namespace Teakra.Interp
variable (mod a : U16)

theorem add_one_split (h : (a &&& lowMask mod).toNat < mod.toNat) :
    (a + 1) &&& ~~~lowMask mod = a &&& ~~~lowMask mod ∧
    ((a + 1) &&& lowMask mod).toNat = (a &&& lowMask mod).toNat + 1 := by
  have e : ((a &&& lowMask mod) + 1).toNat = (a &&& lowMask mod).toNat + 1 :=
    Nat.mod_eq_of_lt (Nat.lt_of_le_of_lt (Nat.succ_le_of_lt h) mod.isLt)
  obtain ⟨hh, hl⟩ := add_split a 1 mod (by rw [e]; exact Nat.le_trans h (toNat_le_lowMask mod))
  exact ⟨hh, by rw [hl, e]⟩

theorem sub_one_eq (x : U16) : x - 1 = x + 0xFFFF := by rw [BitVec.sub_eq_add_neg]; rfl

theorem sub_one_split (h : (a &&& lowMask mod).toNat ≠ 0) :
    (a + 0xFFFF) &&& ~~~lowMask mod = a &&& ~~~lowMask mod ∧
    ((a + 0xFFFF) &&& lowMask mod).toNat = (a &&& lowMask mod).toNat - 1 := by
  have e : ((a &&& lowMask mod) + 0xFFFF).toNat = (a &&& lowMask mod).toNat - 1 := by
    rw [← sub_one_eq]; exact BitVec.toNat_sub_of_le (BitVec.le_def.2 (Nat.pos_of_ne_zero h))
  obtain ⟨hh, hl⟩ := add_split a 0xFFFF mod (by rw [e]; exact Nat.le_trans (Nat.sub_le _ _) (and_lowMask_le a mod))
  exact ⟨hh, by rw [hl, e]⟩

/-- `f` moves every address of the buffer `t` places round it: the high part stays and the offset
becomes `offset + t` modulo the length `mod + 1`. -/
def Shifts (mod : U16) (t : Nat) (f : U16 → U16) : Prop :=
  ∀ a, InBuf mod a → f a &&& ~~~lowMask mod = a &&& ~~~lowMask mod ∧
    (f a &&& lowMask mod).toNat = ((a &&& lowMask mod).toNat + t) % (mod.toNat + 1)

namespace Shifts
variable {mod a} {t u : Nat} {f g : U16 → U16}

theorem inBuf (hf : Shifts mod t f) (hin : InBuf mod a) : InBuf mod (f a) := by
  unfold InBuf; rw [(hf a hin).2]; exact Nat.le_of_lt_succ (Nat.mod_lt _ (Nat.succ_pos _))

theorem stays (hf : Shifts mod t f) (hin : InBuf mod a) :
    f a &&& ~~~lowMask mod = a &&& ~~~lowMask mod ∧ InBuf mod (f a) :=
  ⟨(hf a hin).1, hf.inBuf hin⟩

theorem congr (hf : Shifts mod t f) (h : ∀ x, InBuf mod x → g x = f x) : Shifts mod t g :=
  fun a hin => by rw [h a hin]; exact hf a hin

theorem comp (hf : Shifts mod t f) (hg : Shifts mod u g) : Shifts mod (t + u) (fun x => g (f x)) :=
  fun a hin => by
    obtain ⟨h1, h2⟩ := hf a hin
    obtain ⟨h3, h4⟩ := hg (f a) (hf.inBuf hin)
    exact ⟨h3.trans h1, by rw [h4, h2, Nat.mod_add_mod, Nat.add_assoc]⟩

theorem iterate (hf : Shifts mod t f) (n : Nat) : Shifts mod (n * t) (Nat.repeat f n) := by
  induction n with
  | zero => exact fun a hin => ⟨rfl, by rw [Nat.zero_mul]; exact (Nat.mod_eq_of_lt (Nat.lt_succ_of_le hin)).symm⟩
  | succ n ih => rw [Nat.succ_mul]; exact ih.comp hf

theorem eq_self (hf : Shifts mod t f) (ht : t % (mod.toNat + 1) = 0) (hin : InBuf mod a) : f a = a := by
  obtain ⟨hh, hl⟩ := hf a hin
  refine eq_of_high_low _ hh (BitVec.eq_of_toNat_eq ?_)
  rw [hl, Nat.add_mod, ht, Nat.add_zero, Nat.mod_mod, Nat.mod_eq_of_lt (Nat.lt_succ_of_le hin)]

theorem cyclic (hf : Shifts mod t f) (hin : InBuf mod a) : Nat.repeat f (mod.toNat + 1) a = a :=
  (hf.iterate _).eq_self (Nat.mul_mod_right _ _) hin

/-- One place forward and one place back (`mod ≡ -1`) undo each other. -/
theorem inverse (hf : Shifts mod 1 f) (hg : Shifts mod mod.toNat g) (hin : InBuf mod a) :
    g (f a) = a ∧ f (g a) = a :=
  ⟨(hf.comp hg).eq_self (by rw [Nat.add_comm, Nat.mod_self]) hin, (hg.comp hf).eq_self (Nat.mod_self _) hin⟩

end Shifts

theorem wrapInc_shifts : Shifts mod 1 (wrapInc mod) := by
  intro a hin
  unfold wrapInc
  by_cases h : (a &&& lowMask mod).toNat = mod.toNat
  · rw [if_pos (BitVec.eq_of_toNat_eq h), high_and_mask, h, Nat.mod_self]
    exact ⟨and_and_self _ _, rfl⟩
  · have hlt := Nat.lt_of_le_of_ne hin h
    rw [if_neg (fun e => h (congrArg _ e)), Nat.mod_eq_of_lt (Nat.succ_lt_succ hlt)]
    exact add_one_split mod a hlt

theorem wrapDec_shifts : Shifts mod mod.toNat (wrapDec mod) := by
  intro a hin
  unfold wrapDec
  by_cases h : (a &&& lowMask mod).toNat = 0
  · rw [if_pos (BitVec.eq_of_toNat_eq h), join_low _ _ _ (and_lowMask_self mod), h, Nat.zero_add,
      Nat.mod_eq_of_lt (Nat.lt_succ_self _)]
    exact ⟨join_high _ _ _ (and_lowMask_self mod), rfl⟩
  · have e : (a &&& lowMask mod).toNat + mod.toNat = (a &&& lowMask mod).toNat - 1 + (mod.toNat + 1) := by omega
    rw [if_neg (fun e => h (congrArg _ e)), sub_one_eq, e, Nat.add_mod_right,
      Nat.mod_eq_of_lt (by unfold InBuf at hin; omega)]
    exact sub_one_split mod a h

theorem wrapInc_stays (mod a : U16) (hm : mod ≠ 0) (hin : InBuf mod a) :
    wrapInc mod a &&& ~~~lowMask mod = a &&& ~~~lowMask mod ∧ InBuf mod (wrapInc mod a) :=
  (wrapInc_shifts mod).stays hin

theorem wrapDec_stays (mod a : U16) (hm : mod ≠ 0) (hin : InBuf mod a) :
    wrapDec mod a &&& ~~~lowMask mod = a &&& ~~~lowMask mod ∧ InBuf mod (wrapDec mod a) :=
  (wrapDec_shifts mod).stays hin

theorem wrapDec_wrapInc (mod a : U16) (hm : mod ≠ 0) (hin : InBuf mod a) :
    wrapDec mod (wrapInc mod a) = a :=
  ((wrapInc_shifts mod).inverse (wrapDec_shifts mod) hin).1

theorem wrapInc_wrapDec (mod a : U16) (hm : mod ≠ 0) (hin : InBuf mod a) :
    wrapInc mod (wrapDec mod a) = a :=
  ((wrapInc_shifts mod).inverse (wrapDec_shifts mod) hin).2

theorem repeat_wrapInc_inBuf (mod a : U16) (hm : mod ≠ 0) (hin : InBuf mod a) (n : Nat) :
    InBuf mod (Nat.repeat (wrapInc mod) n a) :=
  ((wrapInc_shifts mod).iterate n).inBuf hin

theorem wrapInc_cyclic (mod a : U16) (hm : mod ≠ 0) (hin : InBuf mod a) :
    Nat.repeat (wrapInc mod) (mod.toNat + 1) a = a :=
  (wrapInc_shifts mod).cyclic hin

theorem wrapDec_cyclic (mod a : U16) (hm : mod ≠ 0) (hin : InBuf mod a) :
    Nat.repeat (wrapDec mod) (mod.toNat + 1) a = a :=
  (wrapDec_shifts mod).cyclic hin

end Teakra.Interp
