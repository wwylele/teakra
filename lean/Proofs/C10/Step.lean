import Proofs.C10.Mod
/-!
# C10 — `stepAmount` / `stepAddressPure`: zero step, linear stepping, high bits

`stepAddressPure_eq` writes `StepAddress` once as a cascade of `if`s over named conditions (`ModuloOn`, `modOf`,
`modStepSel`); the rest of the file is read off it with `if_pos` / `if_neg`: a zero step, linear stepping for each step
kind, one modulo step, and that under modulo no step changes a bit above the mask it uses (`stepMask`).
-/
namespace Teakra.Interp

/-- `regs.m[unit]` -/
def mOf (r : Regs) (unit : Nat) : U16 := r.m.toArray.getD unit 0
/-- `regs.br[unit]` -/
def brOf (r : Regs) (unit : Nat) : U16 := r.br.toArray.getD unit 0
/-- The modulo register of the unit's bank: `modi` for r0..r3, `modj` for r4..r7. -/
def modOf (r : Regs) (unit : Nat) : U16 := if unit < 4 then r.modi else r.modj

/-- Modulo addressing is in effect for this access: not disabled by the instruction (`dmod`),
bit reversal off, modulo enabled for the register. -/
def ModuloOn (r : Regs) (unit : Nat) (dmod : Bool) : Prop :=
  dmod = false ∧ brOf r unit = 0 ∧ mOf r unit ≠ 0

instance (r : Regs) (unit : Nat) (dmod : Bool) : Decidable (ModuloOn r unit dmod) := by
  unfold ModuloOn; infer_instance

/-- One modulo step as `StepAddress` selects it: the TeakLite branch if `legacy || step2Mode2`. -/
def modStepSel (r : Regs) (mod s : U16) (m2 : Bool) (x : U16) : U16 :=
  if r.cmd != 0 || m2 then modStepLegacy mod s x m2 else modStepNew mod s x

theorem moduloOn_iff (r : Regs) (unit : Nat) (dmod : Bool) :
    (!dmod && r.br.toArray.getD unit 0 == 0 && r.m.toArray.getD unit 0 != 0) = true ↔ ModuloOn r unit dmod := by
  simp only [ModuloOn, brOf, mOf, Bool.and_eq_true, Bool.not_eq_true', beq_iff_eq, bne_iff_ne, ne_eq, and_assoc]

/-- `StepAddress` with its cases named: zero step; modulo in effect (`mod = 0`, the `mod = 1`
"step 2, mode 2" exception, two half steps for "step 2, mode 1", one step otherwise); linear. -/
theorem stepAddressPure_eq (r : Regs) (unit : Nat) (a : U16) (step : StepValue) (dmod : Bool) :
    stepAddressPure r unit a step dmod =
      if (stepAmount r unit step).1 = 0 then a
      else if ModuloOn r unit dmod then
        if modOf r unit = 0 then a
        else if modOf r unit = 1 ∧ (stepAmount r unit step).2.2 = true then a
        else if (stepAmount r unit step).2.1 = true then
          modStepSel r (modOf r unit) (Alu.signExtend16 15 ((stepAmount r unit step).1 >>> 1)) (stepAmount r unit step).2.2
            (modStepSel r (modOf r unit) (Alu.signExtend16 15 ((stepAmount r unit step).1 >>> 1))
              (stepAmount r unit step).2.2 a)
        else modStepSel r (modOf r unit) (stepAmount r unit step).1 (stepAmount r unit step).2.2 a
      else a + (stepAmount r unit step).1 := by
  unfold stepAddressPure
  generalize stepAmount r unit step = t
  obtain ⟨s, m1, m2⟩ := t
  cases m1 <;>
  simp only [← moduloOn_iff, modOf, modStepSel, beq_iff_eq, Bool.and_eq_true, Bool.false_eq_true, if_false, if_true,
    Nat.reduceBEq, beq_self_eq_true]

theorem step_linear (r : Regs) (unit : Nat) (a : U16) (step : StepValue) (dmod : Bool)
    (h : ¬ ModuloOn r unit dmod) :
    stepAddressPure r unit a step dmod = a + (stepAmount r unit step).1 := by
  rw [stepAddressPure_eq, if_neg h]
  split
  · rename_i h0; rw [h0]; exact (BitVec.add_zero a).symm
  · rfl

/-! ## zero step -/

theorem step_zero_amount (r : Regs) (unit : Nat) (a : U16) (step : StepValue) (dmod : Bool)
    (h : (stepAmount r unit step).1 = 0) : stepAddressPure r unit a step dmod = a := by
  rw [stepAddressPure_eq, if_pos h]

theorem step_zero (r : Regs) (unit : Nat) (a : U16) (dmod : Bool) :
    stepAddressPure r unit a .zero dmod = a := step_zero_amount r unit a .zero dmod rfl

/-! ## the configured step -/

/-- What `StepAddress` adds for `PlusStep`: with `stp16 = 1` in Teak mode the 16-bit step register
(`stepi0`/`stepj0`; sign-extended from 9 bits when modulo is enabled for the register); otherwise
the 16-bit step register when the register is in bit-reversal mode without modulo; otherwise the
7-bit step (`stepi`/`stepj`) sign-extended.  The C++, and `stepAmount` after it, makes the two tests in the other
order, the later assignment overriding the earlier, and on `Bool`s; here they are propositions, so the two agree
(`stepAmount_plusStep`) up to the `Decidable` instances, not syntactically. -/
def plusStepAmount (r : Regs) (unit : Nat) : U16 :=
  let step7 := if unit < 4 then r.stepi else r.stepj
  let step16 := if unit < 4 then r.stepi0 else r.stepj0
  if r.stp16 = 1 ∧ r.cmd = 0 then (if mOf r unit ≠ 0 then Alu.signExtend16 9 step16 else step16)
  else if brOf r unit ≠ 0 ∧ mOf r unit = 0 then step16
  else Alu.signExtend16 7 step7

theorem stepAmount_plusStep (r : Regs) (unit : Nat) :
    stepAmount r unit .plusStep = (plusStepAmount r unit, false, false) := by
  simp only [stepAmount, plusStepAmount, mOf, brOf, Bool.and_eq_true, beq_iff_eq, bne_iff_ne, ne_eq,
    bne_eq_false_iff_eq, Bool.not_eq_eq_eq_not, Bool.not_true]
  -- what is left differs in the `Decidable` instances alone
  rfl

/-- `signExtend16 n` reads the low `n` bits as a two's-complement number. -/
theorem signExtend16_toInt (n : Nat) (v : U16) (_h1 : 0 < n) (h2 : n ≤ 16) :
    (Alu.signExtend16 n v).toInt =
      if 2 * (v.toNat % 2 ^ n) < 2 ^ n then ((v.toNat % 2 ^ n : Nat) : Int)
      else ((v.toNat % 2 ^ n : Nat) : Int) - 2 ^ n := by
  unfold Alu.signExtend16
  rw [BitVec.toInt_signExtend_of_le h2, BitVec.toInt_eq_toNat_cond, BitVec.toNat_setWidth]
  split <;> simp

/-! ## linear stepping, by step kind -/

theorem stepAmount_increase (r : Regs) (unit : Nat) : stepAmount r unit .increase = (1, false, false) := rfl
theorem stepAmount_decrease (r : Regs) (unit : Nat) : stepAmount r unit .decrease = (0xFFFF, false, false) := rfl
theorem stepAmount_increase2Mode1 (r : Regs) (unit : Nat) :
    stepAmount r unit .increase2Mode1 = (2, !(r.cmd != 0), false) := rfl
theorem stepAmount_decrease2Mode1 (r : Regs) (unit : Nat) :
    stepAmount r unit .decrease2Mode1 = (0xFFFE, !(r.cmd != 0), false) := rfl
theorem stepAmount_increase2Mode2 (r : Regs) (unit : Nat) :
    stepAmount r unit .increase2Mode2 = (2, false, !(r.cmd != 0)) := rfl
theorem stepAmount_decrease2Mode2 (r : Regs) (unit : Nat) :
    stepAmount r unit .decrease2Mode2 = (0xFFFE, false, !(r.cmd != 0)) := rfl
theorem stepAmount_zero (r : Regs) (unit : Nat) : stepAmount r unit .zero = (0, false, false) := rfl

theorem step_linear_increase (r : Regs) (unit : Nat) (a : U16) (dmod : Bool) (h : ¬ ModuloOn r unit dmod) :
    stepAddressPure r unit a .increase dmod = a + 1 := by
  rw [step_linear r unit a .increase dmod h, stepAmount_increase]

theorem step_linear_decrease (r : Regs) (unit : Nat) (a : U16) (dmod : Bool) (h : ¬ ModuloOn r unit dmod) :
    stepAddressPure r unit a .decrease dmod = a - 1 := by
  rw [step_linear r unit a .decrease dmod h, BitVec.sub_eq_add_neg]; rfl

theorem step_linear_increase2 (r : Regs) (unit : Nat) (a : U16) (step : StepValue) (dmod : Bool)
    (h : ¬ ModuloOn r unit dmod) (hs : step = .increase2Mode1 ∨ step = .increase2Mode2) :
    stepAddressPure r unit a step dmod = a + 2 := by
  rw [step_linear r unit a step dmod h]
  rcases hs with rfl | rfl <;> rfl

theorem step_linear_decrease2 (r : Regs) (unit : Nat) (a : U16) (step : StepValue) (dmod : Bool)
    (h : ¬ ModuloOn r unit dmod) (hs : step = .decrease2Mode1 ∨ step = .decrease2Mode2) :
    stepAddressPure r unit a step dmod = a - 2 := by
  rw [step_linear r unit a step dmod h, BitVec.sub_eq_add_neg]
  rcases hs with rfl | rfl <;> rfl

theorem step_linear_plusStep (r : Regs) (unit : Nat) (a : U16) (dmod : Bool) (h : ¬ ModuloOn r unit dmod) :
    stepAddressPure r unit a .plusStep dmod = a + plusStepAmount r unit := by
  rw [step_linear r unit a .plusStep dmod h, stepAmount_plusStep]

/-! ## modulo stepping: unfolding -/

theorem step_mod_once (r : Regs) (unit : Nat) (a : U16) (step : StepValue) (dmod : Bool) (s : U16)
    (h : ModuloOn r unit dmod) (hm : modOf r unit ≠ 0) (hs : stepAmount r unit step = (s, false, false))
    (h0 : s ≠ 0) :
    stepAddressPure r unit a step dmod = modStepSel r (modOf r unit) s false a := by
  rw [stepAddressPure_eq, hs, if_neg h0, if_pos h, if_neg hm, if_neg fun h => Bool.false_ne_true h.2,
    if_neg Bool.false_ne_true]

/-! ## bits above the mask never change -/

/-- The mask `StepAddress` actually uses for a step kind: the TeakLite-compatible branch (and the
"step 2, mode 2" kinds) derive it from `mod ||| s` (resp. `mod ||| ~~~s`), the Teak branch from
`mod` alone.  It is `modMaskSel` at the amount and flag of the step kind: statements about `stepAddressPure` are made
with `stepMask`, statements about one `modStepSel` of the cascade in `stepAddressPure_eq` (whose `s` is half the
amount in the "step 2, mode 1" case) with `modMaskSel`. -/
def stepMask (r : Regs) (unit : Nat) (step : StepValue) : U16 :=
  if r.cmd != 0 || (stepAmount r unit step).2.2 then legacyMask (modOf r unit) (stepAmount r unit step).1
  else lowMask (modOf r unit)

/-- The mask of the branch `modStepSel` takes. -/
def modMaskSel (r : Regs) (mod s : U16) (m2 : Bool) : U16 :=
  if r.cmd != 0 || m2 then legacyMask mod s else lowMask mod

theorem modStepSel_high (r : Regs) (mod s : U16) (m2 : Bool) (x : U16) :
    modStepSel r mod s m2 x &&& ~~~modMaskSel r mod s m2 = x &&& ~~~modMaskSel r mod s m2 := by
  unfold modStepSel modMaskSel
  split
  · exact modStepLegacy_high _ _ _ _
  · exact modStepNew_high _ _ _

/-- "Step 2, mode 1" exists in Teak mode only and excludes "step 2, mode 2": it takes the Teak branch. -/
theorem stepAmount_flags (r : Regs) (unit : Nat) (step : StepValue) (h : (stepAmount r unit step).2.1 = true) :
    (r.cmd != 0 || (stepAmount r unit step).2.2) = false := by
  cases step <;> first | cases h | simpa [stepAmount] using h

theorem step_high_bits (r : Regs) (unit : Nat) (a : U16) (step : StepValue) (dmod : Bool)
    (h : ModuloOn r unit dmod) :
    stepAddressPure r unit a step dmod &&& ~~~stepMask r unit step = a &&& ~~~stepMask r unit step := by
  rw [stepAddressPure_eq, if_pos h]
  iterate 3 (split; · rfl)
  split
  · -- both half steps take the Teak branch, whose mask ignores the step
    have e : ∀ s, stepMask r unit step = modMaskSel r (modOf r unit) s (stepAmount r unit step).2.2 := fun s => by
      rw [stepMask, modMaskSel, stepAmount_flags r unit step ‹_›, if_neg Bool.false_ne_true, if_neg Bool.false_ne_true]
    rw [e (Alu.signExtend16 15 ((stepAmount r unit step).1 >>> 1)), modStepSel_high, modStepSel_high]
  · exact modStepSel_high ..

/-! ## when the mask in use is the buffer's own mask -/

theorem stepMask_of_legacy (r : Regs) (unit : Nat) (step : StepValue)
    (h : legacyMask (modOf r unit) (stepAmount r unit step).1 = lowMask (modOf r unit)) :
    stepMask r unit step = lowMask (modOf r unit) := by
  unfold stepMask
  split
  · exact h
  · rfl

theorem stepMask_teak (r : Regs) (unit : Nat) (step : StepValue) (hc : r.cmd = 0)
    (h1 : step ≠ .increase2Mode2) (h2 : step ≠ .decrease2Mode2) :
    stepMask r unit step = lowMask (modOf r unit) := by
  have hf : (stepAmount r unit step).2.2 = false := by
    cases step
    case increase2Mode2 => exact absurd rfl h1
    case decrease2Mode2 => exact absurd rfl h2
    all_goals rfl
  rw [stepMask, hc, hf]
  rfl

theorem stepMask_two (r : Regs) (unit : Nat) (step : StepValue) (hm : 2 ≤ (modOf r unit).toNat)
    (hs : step = .increase2Mode1 ∨ step = .decrease2Mode1 ∨ step = .increase2Mode2 ∨ step = .decrease2Mode2) :
    stepMask r unit step = lowMask (modOf r unit) := by
  have hm0 : modOf r unit ≠ 0 := by intro h; rw [h] at hm; simp at hm
  apply stepMask_of_legacy
  rcases hs with rfl | rfl | rfl | rfl
  · exact legacyMask_two _ hm
  · exact legacyMask_neg_two _ hm0
  · exact legacyMask_two _ hm
  · exact legacyMask_neg_two _ hm0

end Teakra.Interp
