import Proofs.C10.Cyclic
/-!
# C10 — one modulo step by ±1 is the cyclic successor / predecessor

The TeakLite branch with step ±1 is `wrapInc` / `wrapDec` written in coordinates (`modStepLegacy_inc`,
`modStepLegacy_dec`); the Teak branch computes the same low part by another route
(`modStepNew_one`, `modStepNew_neg_one`: equal at every address, inside the buffer or not).
-/
namespace Teakra.Interp
variable (mod a : U16)

/-- **TeakLite mode, +1.** -/
theorem modStepLegacy_inc (mod a : U16) (hm : mod ≠ 0) (hin : InBuf mod a) :
    modStepLegacy mod 1 a false = wrapInc mod a := by
  rw [modStepLegacy_pos mod 1 a false (by decide), legacyMask_one mod hm, wrapInc]
  by_cases h : a &&& lowMask mod = mod
  · rw [if_pos h, beq_iff_eq.2 h]; exact BitVec.or_zero
  · have h' : (a &&& lowMask mod).toNat < mod.toNat := Nat.lt_of_le_of_ne hin (fun e => h (BitVec.eq_of_toNat_eq e))
    rw [if_neg h, beq_false_of_ne h, Bool.false_and, if_neg Bool.false_ne_true, ← (add_one_split mod a h').1]
    exact high_or_low _ _

/-- **TeakLite mode, −1.** -/
theorem modStepLegacy_dec (mod a : U16) (hm : mod ≠ 0) (hin : InBuf mod a) :
    modStepLegacy mod 0xFFFF a false = wrapDec mod a := by
  rw [modStepLegacy_neg mod 0xFFFF a false (by decide), legacyMask_neg_one mod, wrapDec]
  by_cases h : a &&& lowMask mod = 0
  · rw [if_pos h, beq_iff_eq.2 h]; rfl
  · have h' : (a &&& lowMask mod).toNat ≠ 0 := fun e => h (BitVec.eq_of_toNat_eq e)
    rw [if_neg h, beq_false_of_ne h, Bool.false_and, if_neg Bool.false_ne_true, sub_one_eq,
      ← (sub_one_split mod a h').1]
    exact high_or_low _ _

theorem add_one_add_neg_one (x : U16) : x + 1 + 0xFFFF = x := by
  rw [BitVec.add_assoc]; exact BitVec.add_zero x

theorem add_one_low_inj (x y : U16) :
    (x + 1) &&& lowMask mod = (y + 1) &&& lowMask mod ↔ x &&& lowMask mod = y &&& lowMask mod := by
  constructor
  · intro h
    have := and_lowMask_add_congr mod 0xFFFF h
    rwa [add_one_add_neg_one, add_one_add_neg_one] at this
  · exact and_lowMask_add_congr mod 1

theorem modStepNew_one (hm : mod ≠ 0) : modStepNew mod 1 a = modStepLegacy mod 1 a false := by
  rw [modStepLegacy_pos mod 1 a false (by decide), legacyMask_one mod hm]
  have h1 : (1 : U16).toNat < 0x8000 := by decide
  have := add_one_low_inj mod a mod
  rw [and_lowMask_self] at this
  simp only [modStepNew, h1, if_true, beq_iff_eq, this, Bool.not_false, Bool.true_or, Bool.and_true]

theorem modStepNew_neg_one : modStepNew mod 0xFFFF a = modStepLegacy mod 0xFFFF a false := by
  rw [modStepLegacy_neg mod 0xFFFF a false (by decide), legacyMask_neg_one mod]
  have h1 : ¬ (0xFFFF : U16).toNat < 0x8000 := by decide
  simp only [modStepNew, h1, if_false]
  congr 1
  by_cases h : a &&& lowMask mod = 0
  · simp only [h, beq_self_eq_true, if_true, Bool.not_false, Bool.true_or, Bool.and_true]
    rw [add_one_add_neg_one, and_lowMask_self]
  · simp only [beq_false_of_ne h, Bool.false_eq_true, if_false, Bool.false_and]
    exact (and_lowMask_add a 0xFFFF mod).symm

/-- **Teak mode, +1.**  Inside the buffer a step by +1 advances the address, and from the last
element `base + mod` wraps to `base`. -/
theorem modStepNew_inc (mod a : U16) (hm : mod ≠ 0) (hin : InBuf mod a) :
    modStepNew mod 1 a = wrapInc mod a :=
  (modStepNew_one mod a hm).trans (modStepLegacy_inc mod a hm hin)

/-- **Teak mode, −1.**  Inside the buffer a step by −1 moves the address back, and from `base`
wraps to the last element `base + mod`. -/
theorem modStepNew_dec (mod a : U16) (hm : mod ≠ 0) (hin : InBuf mod a) :
    modStepNew mod 0xFFFF a = wrapDec mod a :=
  (modStepNew_neg_one mod a).trans (modStepLegacy_dec mod a hm hin)

end Teakra.Interp
