import Proofs.C10.Step
import Proofs.Lemmas.Exec
/-!
# C10 — bit reversal, `RnAddress`, `RnAndModify`

`RnAndModify` in closed form (`rnAndModify_run`): it returns the old register value and leaves the state `setRn c unit
(rnNext …)`, where `rnNext` is `StepAddress` of the old value, or 0 in the end-pointer exception.  `RnAddress` returns
the value it is given, bit-reversed when `br[unit]` is set and `m[unit]` is not, and leaves the state alone.  The
zero-step and the bit-reversal part of the property are instances of the two.
-/
namespace Teakra.Interp
open Exec

theorem bitReverse_involutive (v : U16) : Alu.bitReverse (Alu.bitReverse v) = v := by
  unfold Alu.bitReverse
  exact BitVec.reverse_reverse_eq

theorem bitReverse_getElem (v : U16) (i : Nat) (h : i < 16) :
    (Alu.bitReverse v)[i] = v[15 - i] := by
  unfold Alu.bitReverse
  rw [BitVec.getElem_reverse, BitVec.getMsbD_eq_getLsbD, decide_eq_true h, Bool.true_and]
  exact BitVec.getLsbD_eq_getElem _

theorem brvOn_iff (r : Regs) (unit : Nat) :
    (r.br.toArray.getD unit 0 != 0 && r.m.toArray.getD unit 0 == 0) = true ↔ brOf r unit ≠ 0 ∧ mOf r unit = 0 := by
  simp only [brOf, mOf, Bool.and_eq_true, bne_iff_ne, ne_eq, beq_iff_eq]

/-- `RnAddress`: the memory address is the bit-reversed register value exactly when the register
is in bit-reversal mode with modulo off, else the value itself; the state is untouched. -/
theorem rnAddress_brv (unit : Nat) (value : U16) (c : Core) :
    (rnAddress unit value).run c =
      .ok (if brOf c.regs unit ≠ 0 ∧ mOf c.regs unit = 0 then Alu.bitReverse value else value, c) := by
  unfold rnAddress
  rw [ExecLemmas.run_getRegs_bind, ExecLemmas.run_ite]
  simp only [brvOn_iff]
  split <;> rfl

/-- The end-pointer exception of `RnAndModify`: r3 with `epi` set, or r7 with `epj` set, and a step
kind other than the four "step by 2" kinds. -/
def EndPointer (r : Regs) (unit : Nat) (step : StepValue) : Prop :=
  ((unit = 3 ∧ r.epi ≠ 0) ∨ (unit = 7 ∧ r.epj ≠ 0)) ∧
    step ≠ .increase2Mode1 ∧ step ≠ .decrease2Mode1 ∧ step ≠ .increase2Mode2 ∧ step ≠ .decrease2Mode2

instance (r : Regs) (unit : Nat) (step : StepValue) : Decidable (EndPointer r unit step) := by
  unfold EndPointer; infer_instance

/-- The value `RnAndModify` leaves in `r[unit]`. -/
def rnNext (r : Regs) (unit : Nat) (step : StepValue) (dmod : Bool) : U16 :=
  if EndPointer r unit step then 0 else stepAddressPure r unit (r.r.toArray.getD unit 0) step dmod

/-- The machine state with `r[unit]` replaced by `v` and everything else as in `c`
(an out-of-range `unit` leaves the state unchanged). -/
def setRn (c : Core) (unit : Nat) (v : U16) : Core :=
  { c with regs := { c.regs with r := vset c.regs.r unit v } }

/-- The two nested tests of `RnAndModify`. -/
theorem endPointer_iff (r : Regs) (unit : Nat) (step : StepValue) :
    (unit == 3 && r.epi != 0 || unit == 7 && r.epj != 0) = true ∧
      (step != .increase2Mode1 && step != .decrease2Mode1 && step != .increase2Mode2 &&
        step != .decrease2Mode2) = true ↔ EndPointer r unit step := by
  simp only [EndPointer, Bool.and_eq_true, Bool.or_eq_true, beq_iff_eq, bne_iff_ne, ne_eq, and_assoc]

/-- `RnAndModify` returns the OLD register value (the access uses the pre-modified address),
writes `rnNext` to `r[unit]` and changes nothing else in the machine state. -/
theorem rnAndModify_run (unit : Nat) (step : StepValue) (dmod : Bool) (c : Core) :
    (rnAndModify unit step dmod).run c =
      .ok (c.regs.r.toArray.getD unit 0, setRn c unit (rnNext c.regs unit step dmod)) := by
  unfold rnAndModify rnNext
  rw [ExecLemmas.run_getRegs_bind]
  split
  · split
    · rw [if_pos ((endPointer_iff ..).1 ⟨‹_›, ‹_›⟩)]; rfl
    · rw [if_neg fun h => ‹¬ _› ((endPointer_iff ..).2 h).2]; rfl
  · rw [if_neg fun h => ‹¬ _› ((endPointer_iff ..).2 h).1]; rfl

/-! ## frame: nothing but `r[unit]` changes -/

/-- `setRn` touches only the `r` array of the register file: every other component of the machine
state (bus: MIU, memory, peripherals; access and event logs; interrupt bookkeeping) and every other register is as before. -/
theorem setRn_frame (c : Core) (unit : Nat) (v : U16) :
    (setRn c unit v).bus = c.bus ∧ (setRn c unit v).events = c.events ∧ (setRn c unit v).log = c.log ∧
    (setRn c unit v).ipend = c.ipend ∧ (setRn c unit v).vpend = c.vpend ∧ (setRn c unit v).vctx = c.vctx ∧
    (setRn c unit v).vaddr = c.vaddr ∧ (setRn c unit v).idle = c.idle ∧
    (setRn c unit v).regs = { c.regs with r := (setRn c unit v).regs.r } :=
  ⟨rfl, rfl, rfl, rfl, rfl, rfl, rfl, rfl, rfl⟩

theorem setRn_same (c : Core) (unit : Nat) (v : U16) (h : unit < 8) :
    (setRn c unit v).regs.r.toArray.getD unit 0 = v :=
  getD_vset_self _ _ _ h

theorem setRn_other (c : Core) (unit j : Nat) (v : U16) (h : j ≠ unit) :
    (setRn c unit v).regs.r.toArray.getD j 0 = c.regs.r.toArray.getD j 0 :=
  getD_vset_ne _ _ _ _ h

theorem setRn_self (c : Core) (unit : Nat) : setRn c unit (c.regs.r.toArray.getD unit 0) = c := by
  unfold setRn
  rw [vset_getD_self]

theorem rnNext_normal (r : Regs) (unit : Nat) (step : StepValue) (dmod : Bool) (h : ¬ EndPointer r unit step) :
    rnNext r unit step dmod = stepAddressPure r unit (r.r.toArray.getD unit 0) step dmod := by
  unfold rnNext; rw [if_neg h]

theorem rnNext_endPointer (r : Regs) (unit : Nat) (step : StepValue) (dmod : Bool) (h : EndPointer r unit step) :
    rnNext r unit step dmod = 0 := by
  unfold rnNext; rw [if_pos h]

/-- **A zero step never changes the register** (nor anything else) — unless the end-pointer mode
applies to it. -/
theorem zero_step_unchanged (unit : Nat) (dmod : Bool) (c : Core) (h : ¬ EndPointer c.regs unit .zero) :
    (rnAndModify unit .zero dmod).run c = .ok (c.regs.r.toArray.getD unit 0, c) := by
  rw [rnAndModify_run, rnNext_normal _ _ _ _ h, step_zero, setRn_self]

/-- The excluded point of `zero_step_unchanged`: in end-pointer mode a zero step clears the register. -/
theorem zero_step_endPointer (unit : Nat) (dmod : Bool) (c : Core) (h : EndPointer c.regs unit .zero) :
    (rnAndModify unit .zero dmod).run c = .ok (c.regs.r.toArray.getD unit 0, setRn c unit 0) := by
  rw [rnAndModify_run, rnNext_endPointer _ _ _ _ h]

/-- `RnAddressAndModify`: the address of the access is the old register value, bit-reversed exactly
when the register is in bit-reversal mode with modulo off (`br` and `m` are not touched by the
post-modification); the register is post-modified as by `RnAndModify`. -/
theorem rnAddressAndModify_run (unit : Nat) (step : StepValue) (dmod : Bool) (c : Core) :
    (rnAddressAndModify unit step dmod).run c =
      .ok (if brOf c.regs unit ≠ 0 ∧ mOf c.regs unit = 0 then Alu.bitReverse (c.regs.r.toArray.getD unit 0)
           else c.regs.r.toArray.getD unit 0, setRn c unit (rnNext c.regs unit step dmod)) := by
  rw [rnAddressAndModify, ExecLemmas.run_bind, rnAndModify_run, ExecLemmas.except_ok_bind, rnAddress_brv]
  rfl

/-- **Bit-reversed access.**  With bit reversal enabled and modulo off for the register, the
memory address of a post-modified access is the 16-bit bit reversal of the (old) register value
while the register itself steps linearly by the selected amount (or is zeroed in end-pointer
mode). -/
theorem rnAddressAndModify_brv (unit : Nat) (step : StepValue) (dmod : Bool) (c : Core)
    (hbr : brOf c.regs unit ≠ 0) (hm : mOf c.regs unit = 0) :
    (rnAddressAndModify unit step dmod).run c =
      .ok (Alu.bitReverse (c.regs.r.toArray.getD unit 0),
           setRn c unit (if EndPointer c.regs unit step then 0
                         else c.regs.r.toArray.getD unit 0 + (stepAmount c.regs unit step).1)) := by
  rw [rnAddressAndModify_run, if_pos ⟨hbr, hm⟩, rnNext, step_linear _ _ _ _ _ (fun h => h.2.2 hm)]

/-- Without bit reversal (or with modulo on) the access address is the old register value itself. -/
theorem rnAddressAndModify_plain (unit : Nat) (step : StepValue) (dmod : Bool) (c : Core)
    (h : ¬ (brOf c.regs unit ≠ 0 ∧ mOf c.regs unit = 0)) :
    (rnAddressAndModify unit step dmod).run c =
      .ok (c.regs.r.toArray.getD unit 0, setRn c unit (rnNext c.regs unit step dmod)) := by
  rw [rnAddressAndModify_run, if_neg h]

end Teakra.Interp
