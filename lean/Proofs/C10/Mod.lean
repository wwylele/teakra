import Proofs.C10.Basic
/-!
# C10 — the buffer, its cyclic successor and predecessor, and the masks of one modulo step

The specification side of modulo stepping: which addresses lie in the buffer (`InBuf`) and what the next and the
previous one are (`wrapInc`, `wrapDec`).  On the model side: the mask the TeakLite branch computes from `mod` and the
step (`legacyMask`; for steps ±1, and ±2 when `2 ≤ mod`, it is `lowMask mod`), and both branches written as the high
part of the address joined with a new low part, so that neither changes a bit above its mask.
-/
namespace Teakra.Interp

/-- `a` lies inside the buffer `[base, base + mod]` whose base is `a` with the low
`log2p1 mod` bits cleared. -/
def InBuf (mod a : U16) : Prop := (a &&& lowMask mod).toNat ≤ mod.toNat

instance (mod a : U16) : Decidable (InBuf mod a) := by unfold InBuf; infer_instance

/-- The cyclic successor inside the buffer. -/
def wrapInc (mod a : U16) : U16 :=
  if a &&& lowMask mod = mod then a &&& ~~~lowMask mod else a + 1

/-- The cyclic predecessor inside the buffer. -/
def wrapDec (mod a : U16) : U16 :=
  if a &&& lowMask mod = 0 then (a &&& ~~~lowMask mod) ||| mod else a - 1

theorem mod_bracket (mod : U16) (hm : mod ≠ 0) (k : Nat) (hkk : log2p1 mod = k) :
    2 ^ (k - 1) ≤ mod.toNat ∧ mod.toNat < 2 ^ k ∧ 1 ≤ k ∧ k ≤ 16 := hkk ▸ log2p1_spec mod hm

/-! ## the mask of the TeakLite branch -/

/-- The mask the TeakLite-compatible branch derives from `mod` and the step. -/
def legacyMask (mod s : U16) : U16 :=
  lowMask (if (s >>> 15) != 0 then mod ||| ~~~s else mod ||| s)

theorem and_legacyMask_self (mod s : U16) : mod &&& legacyMask mod s = mod := by
  apply and_lowMask_of_le
  refine Nat.le_trans ?_ (toNat_le_lowMask _)
  split <;> rw [BitVec.toNat_or] <;> exact Nat.left_le_or

theorem log2p1_or_small (mod x : U16) (hm : mod ≠ 0) (hx : x.toNat < 2 ^ log2p1 mod) :
    log2p1 (mod ||| x) = log2p1 mod := by
  obtain ⟨h1, h2, h3, h4⟩ := log2p1_spec mod hm
  apply log2p1_unique _ _ h3
  · rw [BitVec.toNat_or]; exact Nat.le_trans h1 Nat.left_le_or
  · rw [BitVec.toNat_or]
    exact Nat.or_lt_two_pow h2 hx

theorem log2p1_or_one (mod : U16) (hm : mod ≠ 0) : log2p1 (mod ||| 1) = log2p1 mod := by
  apply log2p1_or_small mod 1 hm
  have h3 := (log2p1_spec mod hm).2.2.1
  have : (1 : U16).toNat = 2 ^ 0 := rfl
  rw [this]
  exact Nat.pow_lt_pow_right (by decide) (by omega)

/-- For a step of +1 the TeakLite branch uses the mask of `mod` itself. -/
theorem legacyMask_one (mod : U16) (hm : mod ≠ 0) : legacyMask mod 1 = lowMask mod :=
  lowMask_congr (log2p1_or_one mod hm)

/-- For a step of −1 the TeakLite branch uses the mask of `mod` itself. -/
theorem legacyMask_neg_one (mod : U16) : legacyMask mod 0xFFFF = lowMask mod :=
  congrArg lowMask (BitVec.or_zero (x := mod))

theorem legacyMask_two (mod : U16) (h2 : 2 ≤ mod.toNat) : legacyMask mod 2 = lowMask mod := by
  have hm : mod ≠ 0 := by intro h; subst h; simp at h2
  apply lowMask_congr
  apply log2p1_or_small mod 2 hm
  have := (log2p1_spec mod hm).2.1
  have e : (2 : U16).toNat = 2 := rfl
  omega

theorem legacyMask_neg_two (mod : U16) (hm : mod ≠ 0) : legacyMask mod 0xFFFE = lowMask mod :=
  lowMask_congr (log2p1_or_one mod hm)

/-! ## the two branches, unfolded over their mask -/

theorem modStepLegacy_pos (mod s a : U16) (f : Bool) (hs : ((s >>> 15) != 0) = false) :
    modStepLegacy mod s a f = (a &&& ~~~legacyMask mod s) |||
      (if (a &&& legacyMask mod s) == mod && (!f || mod != legacyMask mod s) then 0
       else (a + s) &&& legacyMask mod s) := by
  simp only [modStepLegacy, legacyMask, hs, Bool.not_false, if_true, Bool.false_eq_true, if_false]

theorem modStepLegacy_neg (mod s a : U16) (f : Bool) (hs : ((s >>> 15) != 0) = true) :
    modStepLegacy mod s a f = (a &&& ~~~legacyMask mod s) |||
      (if (a &&& legacyMask mod s) == 0 && (!f || mod != legacyMask mod s) then mod
       else (a + s) &&& legacyMask mod s) := by
  simp only [modStepLegacy, legacyMask, hs, Bool.not_true, if_true, Bool.false_eq_true, if_false]

/-! ## bits above the mask never change -/

theorem modStepNew_high (mod s a : U16) :
    modStepNew mod s a &&& ~~~lowMask mod = a &&& ~~~lowMask mod := by
  unfold modStepNew
  simp only []
  apply join_high
  split
  · split
    · exact BitVec.zero_and
    · exact and_and_self _ _
  · exact and_and_self _ _

theorem modStepLegacy_high (mod s a : U16) (f : Bool) :
    modStepLegacy mod s a f &&& ~~~legacyMask mod s = a &&& ~~~legacyMask mod s := by
  cases hs : (s >>> 15) != 0
  · rw [modStepLegacy_pos mod s a f hs]
    apply join_high
    split
    · exact BitVec.zero_and
    · exact and_and_self _ _
  · rw [modStepLegacy_neg mod s a f hs]
    apply join_high
    split
    · exact and_legacyMask_self mod s
    · exact and_and_self _ _

end Teakra.Interp
