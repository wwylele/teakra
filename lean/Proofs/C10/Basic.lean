import TeakraModel.Interp
import Proofs.Lemmas.Bits
import Mathlib.Algebra.Group.Nat.Defs
import Mathlib.Algebra.Group.Int.Defs
/-!
# C10 — `log2p1`, `lowMask`, and splitting an address at a mask

An address `a` is the pair of its high part `a &&& ~~~M` and its low part `a &&& M`.  For any mask
the pair determines `a` and `h ||| n` has the parts it is built from; for `M = lowMask m` the low
part is `a mod 2^k`, so taking it commutes with addition.  Everything about modulo stepping is said
in these coordinates.

The two Mathlib modules are imported for their instances alone.  With them in scope `2 ^ k` on `ℕ` elaborates
through `Monoid.toNPow` of `Nat.instMonoid` (on `ℤ`: `Int.instMonoid`) instead of `instPowNat`, and every statement of
`Proofs/C10/*` with a power in it (all import this file) is that term.  Without the imports the same source text
would state the theorems about another, definitionally equal, term.
-/
namespace Teakra.Interp

theorem log2p1_spec (v : U16) (hv : v ≠ 0) :
    2 ^ (log2p1 v - 1) ≤ v.toNat ∧ v.toNat < 2 ^ log2p1 v ∧ 1 ≤ log2p1 v ∧ log2p1 v ≤ 16 := by
  have hne : v.toNat ≠ 0 := fun h => hv (BitVec.eq_of_toNat_eq h)
  have h0 : (v == 0) = false := by simpa using hv
  unfold log2p1
  rw [h0]
  simp only [Bool.false_eq_true, if_false, Nat.add_sub_cancel]
  have h1 := Nat.log2_self_le hne
  have h2 : v.toNat < 2 ^ (v.toNat.log2 + 1) := Nat.lt_log2_self
  refine ⟨h1, h2, by omega, ?_⟩
  have h3 : v.toNat.log2 < 16 := (Nat.log2_lt hne).2 v.isLt
  omega

theorem log2p1_zero : log2p1 0 = 0 := by decide

theorem log2p1_le (v : U16) : log2p1 v ≤ 16 := by
  by_cases hv : v = 0
  · subst hv; decide
  · exact (log2p1_spec v hv).2.2.2

theorem toNat_lt_two_pow_log2p1 (v : U16) : v.toNat < 2 ^ log2p1 v := by
  by_cases hv : v = 0
  · subst hv; decide
  · exact (log2p1_spec v hv).2.1

theorem log2p1_unique (v : U16) (k : Nat) (hk : 1 ≤ k) (h1 : 2 ^ (k - 1) ≤ v.toNat) (h2 : v.toNat < 2 ^ k) :
    log2p1 v = k := by
  have hv : v ≠ 0 := by
    rintro rfl
    exact Nat.lt_irrefl 0 (Nat.lt_of_lt_of_le (Nat.two_pow_pos (k - 1)) h1)
  obtain ⟨a, b, c, -⟩ := log2p1_spec v hv
  have e1 : log2p1 v - 1 < k := (Nat.pow_lt_pow_iff_right (by decide : 1 < 2)).1 (Nat.lt_of_le_of_lt a h2)
  have e2 : k - 1 < log2p1 v := (Nat.pow_lt_pow_iff_right (by decide : 1 < 2)).1 (Nat.lt_of_le_of_lt h1 b)
  omega

/-! ## the mask as a number -/

/-- `lowMask m` is `2^(log2p1 m) − 1` (`0xFFFF` when `log2p1 m = 16`, `0` when `m = 0`). -/
theorem lowMask_toNat (m : U16) : (lowMask m).toNat = 2 ^ log2p1 m - 1 :=
  toNat_two_pow_sub_one (log2p1_le m) (BitVec.toNat_ofNat _ _)

theorem lowMask_congr {x y : U16} (h : log2p1 x = log2p1 y) : lowMask x = lowMask y := by
  unfold lowMask; rw [h]

theorem toNat_le_lowMask (m : U16) : m.toNat ≤ (lowMask m).toNat := by
  have := toNat_lt_two_pow_log2p1 m
  rw [lowMask_toNat]; omega

theorem and_lowMask_toNat (a m : U16) : (a &&& lowMask m).toNat = a.toNat % 2 ^ log2p1 m := by
  rw [BitVec.toNat_and, lowMask_toNat, Nat.and_two_pow_sub_one_eq_mod]

theorem and_lowMask_le (a m : U16) : (a &&& lowMask m).toNat ≤ (lowMask m).toNat := by
  rw [BitVec.toNat_and]; exact Nat.and_le_right

theorem and_lowMask_of_le (n m : U16) (h : n.toNat ≤ (lowMask m).toNat) : n &&& lowMask m = n := by
  have := Nat.two_pow_pos (log2p1 m)
  rw [lowMask_toNat] at h
  apply BitVec.eq_of_toNat_eq
  rw [and_lowMask_toNat, Nat.mod_eq_of_lt (by omega)]

theorem and_lowMask_self (m : U16) : m &&& lowMask m = m := and_lowMask_of_le m m (toNat_le_lowMask m)

/-- Taking the low part commutes with addition: `2^k` divides `2^16`. -/
theorem and_lowMask_add (a x m : U16) : (a + x) &&& lowMask m = ((a &&& lowMask m) + x) &&& lowMask m := by
  have hd : 2 ^ log2p1 m ∣ 2 ^ 16 := Nat.pow_dvd_pow 2 (log2p1_le m)
  apply BitVec.eq_of_toNat_eq
  simp only [and_lowMask_toNat, BitVec.toNat_add]
  rw [Nat.mod_mod_of_dvd _ hd, Nat.mod_mod_of_dvd _ hd, Nat.mod_add_mod]

theorem and_lowMask_add_congr {x y : U16} (m z : U16) (h : x &&& lowMask m = y &&& lowMask m) :
    (x + z) &&& lowMask m = (y + z) &&& lowMask m := by
  rw [and_lowMask_add, h, ← and_lowMask_add]

/-! ## high and low part, any mask -/

theorem high_or_low (a M : U16) : (a &&& ~~~M) ||| (a &&& M) = a := by
  rw [← BitVec.and_or_distrib_left, BitVec.or_comm, BitVec.or_not_self, BitVec.and_allOnes]

theorem eq_of_high_low (M : U16) {x y : U16} (hh : x &&& ~~~M = y &&& ~~~M) (hl : x &&& M = y &&& M) :
    x = y := by
  rw [← high_or_low x M, ← high_or_low y M, hh, hl]

theorem high_and_mask (a M : U16) : (a &&& ~~~M) &&& M = 0 := by
  rw [BitVec.and_assoc, BitVec.not_and_self]; exact BitVec.and_zero

theorem and_and_self (x M : U16) : (x &&& M) &&& M = x &&& M := by rw [BitVec.and_assoc, BitVec.and_self]

theorem join_low (a n M : U16) (hn : n &&& M = n) : ((a &&& ~~~M) ||| n) &&& M = n := by
  rw [BitVec.and_or_distrib_right, high_and_mask, hn]; exact BitVec.zero_or

theorem join_high (a n M : U16) (hn : n &&& M = n) : ((a &&& ~~~M) ||| n) &&& ~~~M = a &&& ~~~M := by
  rw [BitVec.and_or_distrib_right, and_and_self, ← hn, BitVec.and_assoc, BitVec.and_not_self,
    show n &&& (0 : U16) = 0 from BitVec.and_zero]
  exact BitVec.or_zero

theorem high_add_low (a n M : U16) (hn : n &&& M = n) : (a &&& ~~~M) + n = (a &&& ~~~M) ||| n :=
  BitVec.add_eq_or_of_and_eq_zero _ _
    (by rw [← hn, BitVec.and_comm n M, ← BitVec.and_assoc, high_and_mask]; exact BitVec.zero_and)

theorem add_split (a x m : U16) (h : ((a &&& lowMask m) + x).toNat ≤ (lowMask m).toNat) :
    (a + x) &&& ~~~lowMask m = a &&& ~~~lowMask m ∧ (a + x) &&& lowMask m = (a &&& lowMask m) + x := by
  have hl := and_lowMask_of_le _ m h
  have e : a + x = (a &&& ~~~lowMask m) ||| ((a &&& lowMask m) + x) := by
    rw [← high_add_low _ _ _ hl, ← BitVec.add_assoc, high_add_low _ _ _ (and_and_self a _), high_or_low]
  rw [e]
  exact ⟨join_high _ _ _ hl, join_low _ _ _ hl⟩

end Teakra.Interp
