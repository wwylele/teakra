import Proofs.C10.Wrap
import Proofs.C10.Step
/-!
# C10 — the modulo theorems for the one-step functions and for `stepAddressPure`

`modStepNew`, `modStepLegacy` and `stepAddressPure` with steps ±1 all agree with `wrapInc` /
`wrapDec` on the buffer, so they are translations by `1` and by `mod` as those are (`Shifts`), and
what holds of such a pair holds of them.
-/
namespace Teakra.Interp

/-! ## the one-step functions -/

theorem modStepNew_shifts (mod : U16) (hm : mod ≠ 0) :
    Shifts mod 1 (modStepNew mod 1) ∧ Shifts mod mod.toNat (modStepNew mod 0xFFFF) :=
  ⟨(wrapInc_shifts mod).congr fun x hx => modStepNew_inc mod x hm hx,
    (wrapDec_shifts mod).congr fun x hx => modStepNew_dec mod x hm hx⟩

theorem modStepLegacy_shifts (mod : U16) (hm : mod ≠ 0) :
    Shifts mod 1 (modStepLegacy mod 1 · false) ∧ Shifts mod mod.toNat (modStepLegacy mod 0xFFFF · false) :=
  ⟨(wrapInc_shifts mod).congr fun x hx => modStepLegacy_inc mod x hm hx,
    (wrapDec_shifts mod).congr fun x hx => modStepLegacy_dec mod x hm hx⟩

/-- Teak mode: ±1 keep an in-buffer address in the buffer, high bits untouched. -/
theorem modStepNew_stays (mod a : U16) (hm : mod ≠ 0) (hin : InBuf mod a) :
    (modStepNew mod 1 a &&& ~~~lowMask mod = a &&& ~~~lowMask mod ∧ InBuf mod (modStepNew mod 1 a)) ∧
    (modStepNew mod 0xFFFF a &&& ~~~lowMask mod = a &&& ~~~lowMask mod ∧ InBuf mod (modStepNew mod 0xFFFF a)) :=
  have ⟨hi, hd⟩ := modStepNew_shifts mod hm
  ⟨hi.stays hin, hd.stays hin⟩

/-- TeakLite mode: ±1 keep an in-buffer address in the buffer, high bits untouched. -/
theorem modStepLegacy_stays (mod a : U16) (hm : mod ≠ 0) (hin : InBuf mod a) :
    (modStepLegacy mod 1 a false &&& ~~~lowMask mod = a &&& ~~~lowMask mod ∧
      InBuf mod (modStepLegacy mod 1 a false)) ∧
    (modStepLegacy mod 0xFFFF a false &&& ~~~lowMask mod = a &&& ~~~lowMask mod ∧
      InBuf mod (modStepLegacy mod 0xFFFF a false)) :=
  have ⟨hi, hd⟩ := modStepLegacy_shifts mod hm
  ⟨hi.stays hin, hd.stays hin⟩

/-- Teak mode: `mod + 1` steps by +1 (or by −1) return to the start; +1 and −1 are mutually inverse. -/
theorem modStepNew_cyclic (mod a : U16) (hm : mod ≠ 0) (hin : InBuf mod a) :
    Nat.repeat (modStepNew mod 1) (mod.toNat + 1) a = a ∧
    Nat.repeat (modStepNew mod 0xFFFF) (mod.toNat + 1) a = a ∧
    modStepNew mod 0xFFFF (modStepNew mod 1 a) = a ∧ modStepNew mod 1 (modStepNew mod 0xFFFF a) = a :=
  have ⟨hi, hd⟩ := modStepNew_shifts mod hm
  ⟨hi.cyclic hin, hd.cyclic hin, hi.inverse hd hin⟩

/-- TeakLite mode: the same cyclic structure. -/
theorem modStepLegacy_cyclic (mod a : U16) (hm : mod ≠ 0) (hin : InBuf mod a) :
    Nat.repeat (fun x => modStepLegacy mod 1 x false) (mod.toNat + 1) a = a ∧
    Nat.repeat (fun x => modStepLegacy mod 0xFFFF x false) (mod.toNat + 1) a = a ∧
    modStepLegacy mod 0xFFFF (modStepLegacy mod 1 a false) false = a ∧
    modStepLegacy mod 1 (modStepLegacy mod 0xFFFF a false) false = a :=
  have ⟨hi, hd⟩ := modStepLegacy_shifts mod hm
  ⟨hi.cyclic hin, hd.cyclic hin, hi.inverse hd hin⟩

/-! ## lifted to `stepAddressPure` -/

/-- **Modulo +1, both modes.**  With modulo in effect, `mod ≠ 0` and a start address inside the
buffer, `StepAddress(…, Increase)` is the cyclic successor:
`if a &&& mask = mod then a &&& ~~~mask else a + 1`, in Teak and in TeakLite-compatible mode. -/
theorem mod_inc (r : Regs) (unit : Nat) (a : U16) (dmod : Bool) (h : ModuloOn r unit dmod)
    (hm : modOf r unit ≠ 0) (hin : InBuf (modOf r unit) a) :
    stepAddressPure r unit a .increase dmod = wrapInc (modOf r unit) a := by
  rw [step_mod_once r unit a .increase dmod 1 h hm rfl (by decide), modStepSel]
  split
  · exact modStepLegacy_inc _ _ hm hin
  · exact modStepNew_inc _ _ hm hin

/-- **Modulo −1, both modes.**  `StepAddress(…, Decrease)` is the cyclic predecessor:
`if a &&& mask = 0 then (a &&& ~~~mask) ||| mod else a - 1`. -/
theorem mod_dec (r : Regs) (unit : Nat) (a : U16) (dmod : Bool) (h : ModuloOn r unit dmod)
    (hm : modOf r unit ≠ 0) (hin : InBuf (modOf r unit) a) :
    stepAddressPure r unit a .decrease dmod = wrapDec (modOf r unit) a := by
  rw [step_mod_once r unit a .decrease dmod 0xFFFF h hm rfl (by decide), modStepSel]
  split
  · exact modStepLegacy_dec _ _ hm hin
  · exact modStepNew_dec _ _ hm hin

/-- **Bits above the alignment never change** (every step kind, every address), relative to the
mask the step actually uses (`stepMask`). -/
theorem mod_high_bits (r : Regs) (unit : Nat) (a : U16) (step : StepValue) (dmod : Bool)
    (h : ModuloOn r unit dmod) (hal : stepMask r unit step = lowMask (modOf r unit)) :
    stepAddressPure r unit a step dmod &&& ~~~lowMask (modOf r unit) = a &&& ~~~lowMask (modOf r unit) := by
  rw [← hal]; exact step_high_bits r unit a step dmod h

theorem mod_shifts (r : Regs) (unit : Nat) (dmod : Bool) (h : ModuloOn r unit dmod) (hm : modOf r unit ≠ 0) :
    Shifts (modOf r unit) 1 (fun x => stepAddressPure r unit x .increase dmod) ∧
    Shifts (modOf r unit) (modOf r unit).toNat (fun x => stepAddressPure r unit x .decrease dmod) :=
  ⟨(wrapInc_shifts _).congr fun x hx => mod_inc r unit x dmod h hm hx,
    (wrapDec_shifts _).congr fun x hx => mod_dec r unit x dmod h hm hx⟩

/-- ±1 keep an in-buffer address inside `[base, base + mod]`. -/
theorem mod_stays_in_buffer (r : Regs) (unit : Nat) (a : U16) (step : StepValue) (dmod : Bool)
    (h : ModuloOn r unit dmod) (hm : modOf r unit ≠ 0) (hin : InBuf (modOf r unit) a)
    (hs : step = .increase ∨ step = .decrease) :
    stepAddressPure r unit a step dmod &&& ~~~lowMask (modOf r unit) = a &&& ~~~lowMask (modOf r unit) ∧
    InBuf (modOf r unit) (stepAddressPure r unit a step dmod) := by
  obtain ⟨hi, hd⟩ := mod_shifts r unit dmod h hm
  rcases hs with rfl | rfl
  · exact hi.stays hin
  · exact hd.stays hin

/-- **Cyclic walk.**  From any address inside the buffer, `mod + 1` increments return to it. -/
theorem mod_cyclic (r : Regs) (unit : Nat) (a : U16) (dmod : Bool) (h : ModuloOn r unit dmod)
    (hm : modOf r unit ≠ 0) (hin : InBuf (modOf r unit) a) :
    Nat.repeat (fun x => stepAddressPure r unit x .increase dmod) ((modOf r unit).toNat + 1) a = a :=
  (mod_shifts r unit dmod h hm).1.cyclic hin

/-- `mod + 1` decrements also return to the start. -/
theorem mod_cyclic_dec (r : Regs) (unit : Nat) (a : U16) (dmod : Bool) (h : ModuloOn r unit dmod)
    (hm : modOf r unit ≠ 0) (hin : InBuf (modOf r unit) a) :
    Nat.repeat (fun x => stepAddressPure r unit x .decrease dmod) ((modOf r unit).toNat + 1) a = a :=
  (mod_shifts r unit dmod h hm).2.cyclic hin

/-- Increment and decrement are mutually inverse on the buffer (including across the wrap). -/
theorem mod_inc_dec_inverse (r : Regs) (unit : Nat) (a : U16) (dmod : Bool) (h : ModuloOn r unit dmod)
    (hm : modOf r unit ≠ 0) (hin : InBuf (modOf r unit) a) :
    stepAddressPure r unit (stepAddressPure r unit a .increase dmod) .decrease dmod = a ∧
    stepAddressPure r unit (stepAddressPure r unit a .decrease dmod) .increase dmod = a :=
  have ⟨hi, hd⟩ := mod_shifts r unit dmod h hm
  hi.inverse hd hin

/-! ## the one place where the strongest reading fails -/

/-- The strongest reading of "never alters address bits above the buffer's power-of-two alignment":
for EVERY step kind.  It is false: in the TeakLite-compatible branch the mask is derived from
`mod ||| s`, so a step by 2 with `mod = 1` uses a 2-bit mask on a 1-bit-aligned buffer. -/
def HighBitsAlways : Prop :=
  ∀ (r : Regs) (unit : Nat) (a : U16) (step : StepValue) (dmod : Bool),
    ModuloOn r unit dmod → modOf r unit ≠ 0 →
    stepAddressPure r unit a step dmod &&& ~~~lowMask (modOf r unit) = a &&& ~~~lowMask (modOf r unit)

/-- Witness on the one-step function: `mod = 1`, step 2 from address 0 lands on 2, outside `[0, 1]`. -/
theorem modStepLegacy_step2_mod1 : modStepLegacy 1 2 0 false = 2 := by decide

/-- The excluded point: TeakLite mode (`cmd = 1`), `modi = 1`, r0 with modulo on, step kind
`increase2Mode1`, address 0 ↦ 2 (bit 1 is above the 1-bit alignment of the buffer `[0, 1]`). -/
theorem not_highBitsAlways : ¬ HighBitsAlways := by
  intro h
  have := h { cmd := 1, modi := 1, m := #v[1, 0, 0, 0, 0, 0, 0, 0] } 0 0 .increase2Mode1 false
    (by decide) (by decide)
  revert this
  decide

/-- `HighBitsAlways` restricted to the steps whose mask is the buffer mask (`mod_high_bits`): this
covers ±1 in both modes, every kind but "step 2 mode 2" in Teak mode, and the ±2 kinds when
`mod ≥ 2`. -/
theorem highBitsAlways_partial (r : Regs) (unit : Nat) (a : U16) (step : StepValue) (dmod : Bool)
    (h : ModuloOn r unit dmod) (hm : modOf r unit ≠ 0)
    (hs : step = .increase ∨ step = .decrease ∨
      (r.cmd = 0 ∧ step ≠ .increase2Mode2 ∧ step ≠ .decrease2Mode2) ∨
      (2 ≤ (modOf r unit).toNat ∧ (step = .increase2Mode1 ∨ step = .decrease2Mode1 ∨
        step = .increase2Mode2 ∨ step = .decrease2Mode2))) :
    stepAddressPure r unit a step dmod &&& ~~~lowMask (modOf r unit) = a &&& ~~~lowMask (modOf r unit) := by
  apply mod_high_bits r unit a step dmod h
  rcases hs with hs | hs | ⟨hc, h1, h2⟩ | ⟨h2, hs⟩
  · subst hs; exact stepMask_of_legacy r unit _ (legacyMask_one _ hm)
  · subst hs; exact stepMask_of_legacy r unit _ (legacyMask_neg_one _)
  · exact stepMask_teak r unit step hc h1 h2
  · exact stepMask_two r unit step h2 hs

/-- ±1 never alter the bits above the buffer's alignment — any address, both modes. -/
theorem mod_high_bits_unit (r : Regs) (unit : Nat) (a : U16) (step : StepValue) (dmod : Bool)
    (h : ModuloOn r unit dmod) (hm : modOf r unit ≠ 0) (hs : step = .increase ∨ step = .decrease) :
    stepAddressPure r unit a step dmod &&& ~~~lowMask (modOf r unit) = a &&& ~~~lowMask (modOf r unit) :=
  highBitsAlways_partial r unit a step dmod h hm (hs.elim .inl fun e => .inr (.inl e))

end Teakra.Interp
