import TeakraModel.Sys
/-!
# C17 — behaviour depends only on the call history; Reset equals a fresh machine

The model is a pure function of the call history by construction; what has to be shown is that it has no
hidden parameter.  (1) Construction: the model's fresh machine is the closed term `{}` — every member of
the C++ classes has an initialiser (the member table scanned from the sources by `tools/scan_members.py`
on every run; the members that had none on the pinned tree are listed in `known_findings.json` as fixed).
(2) `Teakra::Reset`: the state after `reset` does not depend on the state before it, except for what
belongs to the host (external memory, the logs the harness keeps).  Hence every history after a Reset
observes exactly what it observes on a fresh-and-reset machine.
-/
namespace Teakra.Sys

private theorem channels_reset (v v' : Vector DataChannel 3) :
    v.map DataChannel.reset = v'.map DataChannel.reset := by
  apply Vector.ext
  intro i hi
  simp only [Vector.getElem_map]
  rfl

theorem bus_reset_independent (b b' : Bus) (h : b.ext = b'.ext) : b.reset = b'.reset := by
  unfold Bus.reset
  simp [h, Apbp.reset, Ahbm.reset, Dma.reset, channels_reset b.per.apbpFromCpu.dataChannels b'.per.apbpFromCpu.dataChannels,
    channels_reset b.per.apbpFromDsp.dataChannels b'.per.apbpFromDsp.dataChannels]

/-- **Reset forgets the past.**  Two machines with the same host-owned parts are equal after `Reset`,
whatever their registers, memory, MIU, ICU, timers, DMA, AHBM, mailboxes, audio ports, MMIO storage
words, interrupt latches and idle flag were. -/
theorem reset_independent (c c' : Core) (hx : c.bus.ext = c'.bus.ext) (hl : c.log = c'.log)
    (he : c.events = c'.events) : reset c = reset c' := by
  unfold reset
  rw [bus_reset_independent c.bus c'.bus hx, hl, he]

/-- **Reset equals fresh-and-reset.** -/
theorem reset_eq_fresh (c : Core) : reset c = reset (freshLike c) :=
  reset_independent c (freshLike c) rfl rfl rfl

/-- Every later observation — any function of the state after the Reset, in particular the outcome of any
further history of API calls — is the one made on a fresh-and-reset machine. -/
theorem history_after_reset {α : Type} (later : Core → α) (c : Core) :
    later (reset c) = later (reset (freshLike c)) :=
  congrArg later (reset_eq_fresh c)

/-- Resetting twice is resetting once. -/
theorem reset_idempotent (c : Core) : reset (reset c) = reset c :=
  reset_independent (reset c) c rfl rfl rfl

/-- Two fresh machines are the same machine: the constructor has no parameter left to the allocator. -/
theorem fresh_deterministic (c c' : Core) (hx : c.bus.ext = c'.bus.ext) (hl : c.log = c'.log)
    (he : c.events = c'.events) : freshLike c = freshLike c' := by
  unfold freshLike
  rw [hx, hl, he]

/-- **The upstream defect, as a witness.**  The pinned `Reset` kept the interrupt controller, the MMIO
storage words, the mailbox interrupt-disable flags and the interrupt latches: a machine that had request
0xA routed to line 0 and pending, a storage word written, a mailbox interrupt disabled and a latch set
still has all of that after the upstream `Reset`, and so differs from a fresh-and-reset machine. -/
theorem upstream_reset_keeps_icu :
    let dirty : Core :=
      { bus := { per := { icu := { request := 0x400, enabled := #v[0x400, 0, 0] },
                          store := (Vector.replicate mmioSize (0 : U16)).set 0x2C 0x1234,
                          apbpFromCpu := (({} : Apbp).setDisableInterrupt 0 1) } },
        ipend := #v[true, false, false] }
    (resetUpstream dirty).bus.per.icu.request = 0x400 ∧
    (resetUpstream dirty).bus.per.store[0x2C]'(by decide) = 0x1234 ∧
    (resetUpstream dirty).bus.per.apbpFromCpu.getDisableInterrupt 0 = 1 ∧
    (resetUpstream dirty).ipend = #v[true, false, false] ∧
    (reset dirty).bus.per.icu.request = 0 ∧ (reset dirty).bus.per.store[0x2C]'(by decide) = 0 ∧
    (reset dirty).bus.per.apbpFromCpu.getDisableInterrupt 0 = 0 ∧
    (reset dirty).ipend = Vector.replicate 3 false := by
  decide +kernel

/-- non-vacuity: a reset machine has the registers and the MIU of the constructor. -/
example : (reset ({} : Core)).regs = {} ∧ (reset ({} : Core)).bus.miu = {} := ⟨rfl, rfl⟩

end Teakra.Sys
