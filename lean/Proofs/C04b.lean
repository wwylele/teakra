import Proofs.C04
import Proofs.C03Exec
/-!
# C04, second part — exponent, the complete `ShiftBus40`, multiply–accumulate order, product sums

`Exp` is characterised by the count of redundant sign bits, first on bits, then as bounds on `I40` (`exp_spec`).
`ShiftBus40`, `MulGeneric` and `ProductSum` are each run once to a named register file (`shiftRegs`, `macRegs`,
`productSumRegs`); the `…_spec` theorems read its fields in exact arithmetic: saturation by the *original* sign,
accumulate-then-multiply order, the OR / XOR merge of carry and overflow of the two additions of a product sum.
-/
namespace Teakra.Alu

/-! ## `Exp` -/

/-- `n` is the number of redundant sign bits of the 40-bit value `v`: the largest `n ≤ 39` such that
bits `38 … 39 − n` all repeat bit 39. -/
def IsRedundantSignCount (v : U64) (n : Nat) : Prop :=
  n ≤ 39 ∧ (∀ j, 39 - n ≤ j → j ≤ 38 → v.getLsbD j = v.getLsbD 39) ∧
    (n < 39 → v.getLsbD (38 - n) ≠ v.getLsbD 39)

def FitsBits (v : U64) (bits : Nat) : Prop := -2 ^ (bits - 1) ≤ I40 v ∧ I40 v < 2 ^ (bits - 1)

/-- From `bit` downwards the loop adds to its counter the length `n ≤ bit + 1` of the run of bits equal
to `s`. -/
private theorem expLoop_run (v : U64) (s : Bool) : ∀ bit count : Nat, ∃ n,
    expLoop v s bit count = count + n ∧ n ≤ bit + 1 ∧
    (∀ j, bit + 1 - n ≤ j → j ≤ bit → v.getLsbD j = s) ∧
    (n < bit + 1 → v.getLsbD (bit - n) ≠ s) := by
  intro bit
  induction bit with
  | zero =>
    intro count
    unfold expLoop
    by_cases h : v.getLsbD 0 = s
    · rw [if_neg (by rw [h, bne_self_eq_false]; decide)]
      exact ⟨1, rfl, by omega, fun j _ hj => by rw [show j = 0 by omega, h], by omega⟩
    · rw [if_pos (bne_iff_ne.2 h)]
      exact ⟨0, rfl, by omega, fun j h1 h2 => by omega, fun _ => h⟩
  | succ b ih =>
    intro count
    unfold expLoop
    by_cases h : v.getLsbD (b + 1) = s
    · rw [if_neg (by rw [h, bne_self_eq_false]; decide)]
      obtain ⟨n, e, h1, h2, h3⟩ := ih (count + 1)
      refine ⟨n + 1, by omega, by omega, fun j hj1 hj2 => ?_, fun hr => ?_⟩
      · by_cases hj : j = b + 1
        · rw [hj, h]
        · exact h2 j (by omega) (by omega)
      · rw [show b + 1 - (n + 1) = b - n by omega]
        exact h3 (by omega)
    · rw [if_pos (bne_iff_ne.2 h)]
      exact ⟨0, rfl, by omega, fun j h1 h2 => by omega, fun _ => h⟩

theorem expLoop_count (v : U64) : IsRedundantSignCount v (expLoop v (v.getLsbD 39) 38 0) := by
  obtain ⟨n, e, h2, h3, h4⟩ := expLoop_run v (v.getLsbD 39) 38 0
  rw [e, Nat.zero_add]
  exact ⟨by omega, fun j hj1 hj2 => h3 j (by omega) hj2, fun hn => h4 (by omega)⟩

theorem redundantSignCount_unique (v : U64) (n m : Nat) (hn : IsRedundantSignCount v n)
    (hm : IsRedundantSignCount v m) : n = m := by
  obtain ⟨n1, n2, n3⟩ := hn
  obtain ⟨m1, m2, m3⟩ := hm
  by_contra hne
  rcases Nat.lt_or_gt_of_ne hne with h | h
  · exact n3 (by omega) (m2 (38 - n) (by omega) (by omega))
  · exact m3 (by omega) (n2 (38 - m) (by omega) (by omega))

/-! ### from bits to bounds -/

/-- Both sides say that the 40-bit value is the sign extension of its low `k + 1` bits. -/
theorem fits_iff_bits (v : U64) (k : Nat) (hk : k ≤ 39) :
    (-2 ^ k ≤ I40 v ∧ I40 v < 2 ^ k) ↔ ∀ j, k ≤ j → j ≤ 38 → v.getLsbD j = v.getLsbD 39 := by
  have h2 : k + 1 ≤ 40 := by omega
  unfold I40
  generalize hx : v.setWidth 40 = x
  have hbit : ∀ j, j < 40 → v.getLsbD j = x.getLsbD j := by
    intro j hj; rw [← hx, BitVec.getLsbD_setWidth]; simp [hj]
  rw [← bmod_two_pow_eq_self, ← BitVec.toInt_signExtend_eq_toInt_bmod_of_le x h2,
    BitVec.signExtend_eq_setWidth_of_le x h2,
    ← BitVec.toInt_signExtend_of_le (x := x.setWidth (k + 1)) h2, BitVec.toInt_inj]
  -- bit `i` of the sign extension of the low `k + 1` bits is bit `min i k`
  have hb : ∀ i, i < 40 → ((x.setWidth (k + 1)).signExtend 40).getLsbD i = x.getLsbD (min i k) := by
    intro i hi40
    rw [BitVec.getLsbD_signExtend, BitVec.msb_setWidth, BitVec.getLsbD_setWidth]
    by_cases hi : i < k + 1
    · simp [hi, hi40, Nat.min_eq_left (Nat.le_of_lt_succ hi)]
    · simp [hi, hi40, Nat.min_eq_right (Nat.le_of_lt (Nat.not_lt.1 hi))]
  constructor
  · intro h j hj1 hj2
    have e1 := hb j (by omega)
    have e2 := hb 39 (by omega)
    rw [h, Nat.min_eq_right hj1] at e1
    rw [h, Nat.min_eq_right hk] at e2
    rw [hbit j (by omega), hbit 39 (by omega), e1, e2]
  · intro h
    apply BitVec.eq_of_getLsbD_eq; intro i hi
    rw [hb i hi]
    by_cases hik : i ≤ k
    · rw [Nat.min_eq_left hik]
    · have hk' : k ≤ 38 := by omega
      rw [Nat.min_eq_right (by omega), ← hbit k (by omega), ← hbit i hi, h k (Nat.le_refl _) hk']
      by_cases hi39 : i = 39
      · rw [hi39]
      · exact (h i (by omega) (by omega)).symm

theorem isRedundantSignCount_iff (v : U64) (n : Nat) :
    IsRedundantSignCount v n ↔ n ≤ 39 ∧ (-2 ^ (39 - n) ≤ I40 v ∧ I40 v < 2 ^ (39 - n)) ∧
      (n < 39 → ¬ (-2 ^ (38 - n) ≤ I40 v ∧ I40 v < 2 ^ (38 - n))) := by
  unfold IsRedundantSignCount
  rw [fits_iff_bits v (39 - n) (by omega), fits_iff_bits v (38 - n) (by omega)]
  refine and_congr_right fun hn => and_congr_right fun hall => forall_congr' fun hn39 => not_congr ?_
  constructor
  · intro h j hj1 hj2
    by_cases hj : j = 38 - n
    · rw [hj, h]
    · exact hall j (by omega) hj2
  · intro h; exact h _ (Nat.le_refl _) (by omega)

theorem isRedundantSignCount_iff_fitsBits (v : U64) (n : Nat) :
    IsRedundantSignCount v n ↔ n ≤ 39 ∧ FitsBits v (40 - n) ∧ (n < 39 → ¬ FitsBits v (39 - n)) := by
  unfold FitsBits
  rw [isRedundantSignCount_iff, show 40 - n - 1 = 39 - n by omega, show 39 - n - 1 = 38 - n by omega]

theorem redundantSignCount_bounds (v : U64) (n : Nat) (h : IsRedundantSignCount v n) :
    FitsBits v (40 - n) ∧ (n < 39 → ¬ FitsBits v (39 - n)) :=
  ((isRedundantSignCount_iff_fitsBits v n).1 h).2

/-- **The exponent instructions report the redundant sign bits minus eight.**  With `n` the number
of redundant sign bits of the 40-bit value (the largest `n ≤ 39` such that bits `38 … 39 − n` all
equal bit 39), `Exp(v) = n − 8` as a 16-bit word; arithmetically `n` is characterised by: the signed
value fits `40 − n` bits, `−2^(39−n) ≤ v < 2^(39−n)`, and, if `n < 39`, does not fit `39 − n` bits. -/
theorem exp_spec (v : U64) :
    ∃ n, IsRedundantSignCount v n ∧ exp v = BitVec.ofNat 16 n - 8 ∧
      (-2 ^ (39 - n) ≤ I40 v ∧ I40 v < 2 ^ (39 - n)) ∧
      (n < 39 → ¬ (-2 ^ (38 - n) ≤ I40 v ∧ I40 v < 2 ^ (38 - n))) :=
  ⟨_, expLoop_count v, rfl, ((isRedundantSignCount_iff v _).1 (expLoop_count v)).2⟩

theorem exp_eq_of_count (v : U64) (n : Nat) (h : IsRedundantSignCount v n) :
    exp v = BitVec.ofNat 16 n - 8 := by
  rw [redundantSignCount_unique v n _ h (expLoop_count v)]; rfl

/-- Converse of `exp_spec`: the bounds determine the count, hence `Exp(v)`. -/
theorem exp_eq_of_bounds (v : U64) (n : Nat) (hn : n ≤ 39) (h1 : FitsBits v (40 - n))
    (h2 : n < 39 → ¬ FitsBits v (39 - n)) :
    IsRedundantSignCount v n ∧ exp v = BitVec.ofNat 16 n - 8 :=
  have h := (isRedundantSignCount_iff_fitsBits v n).2 ⟨hn, h1, h2⟩
  ⟨h, exp_eq_of_count v n h⟩

/-! ### the arithmetic left shift as exact arithmetic, and normalisation -/

theorem wrap40_eq_self (x : Int) (h : ¬ (x < -2 ^ 39 ∨ 2 ^ 39 ≤ x)) : wrap40 x = x :=
  Int.bmod_eq_of_le (by omega) (by omega)

private theorem I40_bmod (x : U64) : I40 x = ((U40' x : Nat) : Int).bmod (2 ^ 40) := by
  unfold I40 U40'
  rw [BitVec.toInt_eq_toNat_bmod, BitVec.toNat_setWidth]

/-- **Left shift, value as a signed number.**  The 40-bit result of a left shift by `n` is
`value · 2ⁿ` wrapped to 40 bits two's complement (so it is exact whenever `fv` is not raised). -/
theorem shl_arith_value (value : U64) (sv s : U16) (h : sv.toNat < 0x8000) :
    I40 (signExtend 40 (shiftCore value sv s).value) = wrap40 (I40 value * 2 ^ sv.toNat) := by
  rw [I40_signExtend, I40_bmod, shl_value value sv s h, I40_bmod, wrap40]
  rw [Int.natCast_mod, Int.emod_bmod, Int.bmod_mul_bmod, Int.natCast_mul, Int.natCast_pow]
  rfl

private theorem ofNat16_sub8_toNat (n : Nat) (h8 : 8 ≤ n) (h : n ≤ 39) :
    (BitVec.ofNat 16 n - 8 : U16).toNat = n - 8 := by
  rw [BitVec.toNat_sub, BitVec.toNat_ofNat]
  simp only [show (8 : U16).toNat = 8 from rfl]
  omega

/-- **Shifting left by the reported exponent normalises the value.**  When the count of redundant
sign bits is at least 8 (so `e = Exp(v) = n − 8` is a left-shift count `0 ≤ e ≤ 31`), the arithmetic
shifter applied to `v` with shift value `Exp(v)` yields exactly `W = v · 2ᵉ`, raises no overflow, the
result fits 32 bits, and for every `v ≠ 0` it is normalised: `2³⁰ ≤ W` or `W < −2³⁰`, and bits 31 and 30 of
the result differ (`v = −1` becomes `−2³¹`); `v = 0` stays 0. -/
theorem exp_normalises (v : U64) (n : Nat) (hc : IsRedundantSignCount v n) (h8 : 8 ≤ n) :
    let W := I40 v * 2 ^ (n - 8)
    let R := signExtend 40 (shiftCore v (exp v) 0).value
    (exp v).toNat = n - 8 ∧ n - 8 ≤ 31 ∧
    I40 R = W ∧ (shiftCore v (exp v) 0).fv = some 0 ∧
    (-2 ^ 31 ≤ W ∧ W < 2 ^ 31) ∧
    (I40 v ≠ 0 → (2 ^ 30 ≤ W ∨ W < -2 ^ 30) ∧ R.getLsbD 31 ≠ R.getLsbD 30) ∧
    (I40 v = 0 → W = 0) := by
  intro W R
  obtain ⟨hn, hfit, hnot⟩ := (isRedundantSignCount_iff v n).1 hc
  have he : (exp v).toNat = n - 8 := by rw [exp_eq_of_count v n hc]; exact ofNat16_sub8_toNat n h8 hn
  have hlt : (exp v).toNat < 0x8000 := by omega
  -- scaled by `2^(n−8)`, the bounds at `39 − n` become bounds at 31, those at `38 − n` bounds at 30
  have hW : -2 ^ 31 ≤ W ∧ W < 2 ^ 31 := by
    have := (fits_mul_two_pow (I40 v) (39 - n) (n - 8)).2 hfit
    rwa [Nat.sub_add_sub_cancel hn h8] at this
  have hR : I40 R = W := by
    show I40 (signExtend 40 (shiftCore v (exp v) 0).value) = _
    rw [shl_arith_value v (exp v) 0 hlt, he]
    exact wrap40_eq_self _ (by omega)
  have hfv : (shiftCore v (exp v) 0).fv = some 0 := by
    rw [shl_overflow v (exp v) 0 hlt, he, if_pos rfl]
    have : ¬ (W < -2 ^ 39 ∨ 2 ^ 39 ≤ W) := by omega
    show some (b2u (decide (W < -2 ^ 39 ∨ 2 ^ 39 ≤ W))) = some 0
    rw [decide_eq_false this]; rfl
  refine ⟨he, by omega, hR, hfv, hW, fun hv0 => ?_, fun hv0 => ?_⟩
  · have hnorm : ¬ (-2 ^ 30 ≤ W ∧ W < 2 ^ 30) := by
      by_cases h39 : n < 39
      · have := fits_mul_two_pow (I40 v) (38 - n) (n - 8)
        rw [Nat.sub_add_sub_cancel (Nat.le_of_lt_succ h39) h8] at this
        rw [this]
        exact hnot h39
      · -- all 39 bits below the sign repeat it: `v = −1`, which becomes `−2³¹`
        obtain rfl : n = 39 := by omega
        have : I40 v = -1 := by omega
        show ¬ (-2 ^ 30 ≤ I40 v * 2 ^ (39 - 8) ∧ I40 v * 2 ^ (39 - 8) < 2 ^ 30)
        rw [this]; decide
    refine ⟨by omega, ?_⟩
    -- the result fits 32 bits and not 31: it has exactly 8 redundant sign bits, so bit 31 repeats
    -- the sign and bit 30 does not
    obtain ⟨-, h32, h31⟩ := (isRedundantSignCount_iff R 8).2 ⟨by decide, hR ▸ hW, fun _ => hR ▸ hnorm⟩
    rw [h32 31 (by decide) (by decide)]
    exact (h31 (by decide)).symm
  · show I40 v * 2 ^ (n - 8) = 0
    rw [hv0, Int.zero_mul]

end Teakra.Alu

namespace Teakra.Interp
open Teakra Exec ExecLemmas Alu

/-! ## `ShiftBus40` end to end -/

/-- The 40-bit shifted value `ShiftBus40` computes before flags and saturation, as a well-formed
accumulator pattern. -/
def shifted (s : U16) (value : U64) (sv : U16) : U64 :=
  signExtend 40 (shiftCore (value &&& mask40) sv s).value

def withShiftFlags (r : Regs) (o : ShiftOut) : Regs :=
  match o.fv with
  | some fv => { r with fc0 := o.fc0, fv := fv, fvl := if fv != 0 then 1 else r.fvl }
  | none => { r with fc0 := o.fc0 }

def shiftRegs (r : Regs) (k : Bool × Fin 2) (value : U64) (sv : U16) : Regs :=
  let o := shiftCore (value &&& mask40) sv r.s
  let S := shifted r.s value sv
  let r3 := withAccFlags (withShiftFlags r o) S
  if r.s == 0 && r.sata == 0 then
    if (withShiftFlags r o).fv != 0 || signExtend 32 S != S then
      setAccOf (withFlm1 r3) k
        (if (value &&& mask40) >>> 39 == 1 then (0xFFFFFFFF80000000 : U64) else 0x7FFFFFFF)
    else setAccOf r3 k S
  else setAccOf r3 k S

/-- The part of `ShiftBus40` after carry and overflow are written. -/
private theorem shiftBus40_tail (S sat : U64) (dest : RegName) (k : Bool × Fin 2) (h : accIndex dest = some k)
    (c : Core) :
    (do setAccFlag S
        let r ← getRegs
        let value ←
          if r.s == 0 && r.sata == 0 then
            if r.fv != 0 || Alu.signExtend 32 S != S then do
              modifyRegs fun r => { r with flm := 1 }
              pure sat
            else pure S
          else pure S
        setAcc dest value : Exec Unit).run c =
      .ok ((), withRegs c (
        if c.regs.s == 0 && c.regs.sata == 0 then
          if c.regs.fv != 0 || signExtend 32 S != S then setAccOf (withFlm1 (withAccFlags c.regs S)) k sat
          else setAccOf (withAccFlags c.regs S) k S
        else setAccOf (withAccFlags c.regs S) k S)) := by
  simp only [run_bind, run_setAccFlag_regs, except_ok_bind, run_getRegs, withAccFlags_frame, run_ite]
  split
  · split
    · simp only [run_modifyRegs, run_pure, except_ok_bind, run_setAcc _ k h]; rfl
    · simp only [run_pure, except_ok_bind, run_setAcc _ k h]; rfl
  · simp only [run_pure, except_ok_bind, run_setAcc _ k h]; rfl

/-- **`ShiftBus40` as a pure function of the old state.**  The handler helper touches nothing but
the register file, and the new register file is `shiftRegs`. -/
theorem shiftBus40_run (value : U64) (sv : U16) (dest : RegName) (k : Bool × Fin 2)
    (h : accIndex dest = some k) (c : Core) :
    (shiftBus40 value sv dest).run c = .ok ((), withRegs c (shiftRegs c.regs k value sv)) := by
  unfold shiftBus40 shiftRegs shifted withShiftFlags
  simp only [run_bind, run_getRegs, except_ok_bind, run_modifyRegs]
  cases (shiftCore (value &&& mask40) sv c.regs.s).fv with
  | none => exact shiftBus40_tail _ _ dest k h _
  | some fv =>
    rw [run_bind, run_modifyRegs, except_ok_bind]
    exact shiftBus40_tail _ _ dest k h _

/-! ### what the fields of `shiftRegs` are -/

/-- The shifter core only looks at the low 40 bits (the caller's pre-masking is redundant). -/
theorem shiftCore_mask (value : U64) (sv s : U16) :
    shiftCore (value &&& mask40) sv s = shiftCore value sv s := by
  unfold shiftCore
  simp only [BitVec.and_assoc, BitVec.and_self]

def shiftFv (value : U64) (sv : U16) : U16 :=
  if sv.toNat < 0x8000 then
    b2u (decide (I40 value * 2 ^ sv.toNat < -2 ^ 39 ∨ 2 ^ 39 ≤ I40 value * 2 ^ sv.toNat))
  else 0

theorem shiftCore_fv (value : U64) (sv s : U16) :
    (shiftCore value sv s).fv = if s = 0 then some (shiftFv value sv) else none := by
  unfold shiftFv
  by_cases h : sv.toNat < 0x8000
  · rw [shl_overflow value sv s h]; simp only [h, if_true]; rfl
  · rw [shr_overflow value sv s (by omega)]; simp only [h, if_false]

theorem shifted_eq (s : U16) (value : U64) (sv : U16) :
    shifted s value sv = signExtend 40 (shiftCore value sv s).value := by
  unfold shifted; rw [shiftCore_mask]

theorem shifted_wf (s : U16) (value : U64) (sv : U16) : AccWF (shifted s value sv) :=
  signExtend40_wf _

private theorem origSign_eq (value : U64) :
    ((value &&& mask40) >>> 39 == 1) = decide (I40 value < 0) := by
  have hx : value.toNat % 2 ^ 40 < 2 ^ 40 := Nat.mod_lt _ (by decide)
  have hI := I40_cases value
  rw [beq_eq_decide_toNat, BitVec.toNat_ushiftRight, and_mask40_toNat, Nat.shiftRight_eq_div_pow,
    decide_eq_decide]
  show value.toNat % 2 ^ 40 / 2 ^ 39 = 1 ↔ _
  split at hI <;> omega

def ShiftSaturates (r : Regs) (value : U64) (sv : U16) : Prop :=
  r.s = 0 ∧ r.sata = 0 ∧
    (shiftFv value sv ≠ 0 ∨ I40 (shifted r.s value sv) < -2 ^ 31 ∨ 2 ^ 31 ≤ I40 (shifted r.s value sv))

instance (r : Regs) (value : U64) (sv : U16) : Decidable (ShiftSaturates r value sv) := by
  unfold ShiftSaturates; exact inferInstance

theorem withShiftFlags_spec (r : Regs) (value : U64) (sv : U16) :
    let r2 := withShiftFlags r (shiftCore value sv r.s)
    r2.fc0 = (shiftCore value sv r.s).fc0 ∧
    (r.s = 0 → r2.fv = shiftFv value sv ∧ r2.fvl = if shiftFv value sv ≠ 0 then 1 else r.fvl) ∧
    (r.s ≠ 0 → r2.fv = r.fv ∧ r2.fvl = r.fvl) ∧ r2.flm = r.flm := by
  unfold withShiftFlags
  rw [shiftCore_fv]
  by_cases hs : r.s = 0
  · rw [if_pos hs]
    refine ⟨rfl, fun _ => ⟨rfl, ?_⟩, fun h => absurd hs h, rfl⟩
    show (if shiftFv value sv != 0 then (1 : U16) else r.fvl) = _
    by_cases h0 : shiftFv value sv = 0 <;> simp [h0]
  · rw [if_neg hs]
    exact ⟨rfl, fun h => absurd h hs, fun _ => ⟨rfl, rfl⟩, rfl⟩

/-- `shiftRegs` in normal form: flags first, then one `if` for the saturation rule. -/
theorem shiftRegs_eq (r : Regs) (k : Bool × Fin 2) (value : U64) (sv : U16) :
    shiftRegs r k value sv =
      (let S := shifted r.s value sv
       let r3 := withAccFlags (withShiftFlags r (shiftCore value sv r.s)) S
       if ShiftSaturates r value sv then
         setAccOf (withFlm1 r3) k (if I40 value < 0 then (0xFFFFFFFF80000000 : U64) else 0x7FFFFFFF)
       else setAccOf r3 k S) := by
  have hfit := (bne_comm ..).trans (ne_signExtend32 _ (shifted_wf r.s value sv))
  obtain ⟨_, h1, _, _⟩ := withShiftFlags_spec r value sv
  -- the two nested tests of the code are one condition
  have hc : ((r.s == 0 && r.sata == 0) = true ∧
      ((withShiftFlags r (shiftCore value sv r.s)).fv != 0 ||
        signExtend 32 (shifted r.s value sv) != shifted r.s value sv) = true) ↔ ShiftSaturates r value sv := by
    unfold ShiftSaturates
    rw [Bool.and_eq_true, beq_iff_eq, beq_iff_eq, Bool.or_eq_true, bne_iff_ne, hfit, decide_eq_true_eq, and_assoc]
    exact and_congr_right fun hs => by rw [(h1 hs).1]
  unfold shiftRegs
  simp only [shiftCore_mask, origSign_eq value, decide_eq_true_eq]
  rw [← ite_and, if_congr hc rfl rfl]

/-- **`ShiftBus40`, field by field.**  With `S` the 40-bit shifted value (`Proofs/C04.lean`:
`shl_value`, `shr_arith_value`, `shr_logic_value`; `shl_arith_value` above):
* carry is the shifter core's carry — the last bit shifted out (`shl_carry`, `shr_*_carry`);
* in arithmetic mode (`s = 0`) overflow is raised exactly when a left shift loses significant bits
  and is latched into `fvl`; in logic mode `fv`/`fvl` are untouched;
* zero / minus / extension / normalized are the flags of `S`;
* when `s = 0 ∧ sata = 0` and (`fv ≠ 0` or `S` does not fit 32 bits) the destination receives
  `0x7FFFFFFF` or `0xFFFFFFFF80000000` according to the ORIGINAL operand's sign and `flm := 1`;
  otherwise `S` is stored unchanged and `flm` is untouched. -/
theorem shiftRegs_spec (r : Regs) (k : Bool × Fin 2) (value : U64) (sv : U16) :
    let r' := shiftRegs r k value sv
    let S := shifted r.s value sv
    r'.fc0 = (shiftCore value sv r.s).fc0 ∧
    (r.s = 0 → r'.fv = shiftFv value sv ∧ r'.fvl = if shiftFv value sv ≠ 0 then 1 else r.fvl) ∧
    (r.s ≠ 0 → r'.fv = r.fv ∧ r'.fvl = r.fvl) ∧
    r'.fz = b2u (decide (I40 S = 0)) ∧ r'.fm = b2u (decide (I40 S < 0)) ∧
    r'.fe = b2u (decide (I40 S < -2 ^ 31 ∨ 2 ^ 31 ≤ I40 S)) ∧
    r'.fn = b2u (decide (I40 S = 0) || (!decide (I40 S < -2 ^ 31 ∨ 2 ^ 31 ≤ I40 S) &&
                (S.getLsbD 31 != S.getLsbD 30))) ∧
    (ShiftSaturates r value sv →
      accOf r' k = (if I40 value < 0 then (0xFFFFFFFF80000000 : U64) else 0x7FFFFFFF) ∧ r'.flm = 1) ∧
    (¬ ShiftSaturates r value sv → accOf r' k = S ∧ r'.flm = r.flm) := by
  intro r' S
  obtain ⟨hz, hm, he, hn⟩ := accFlags_spec S (shifted_wf r.s value sv)
  obtain ⟨g1, g2, g3, g4⟩ := withShiftFlags_spec r value sv
  simp only [r', shiftRegs_eq]
  by_cases hsat : ShiftSaturates r value sv
  · simp only [if_pos hsat, setAccOf_frame, accOf_setAccOf, withFlm1_frame, withAccFlags_frame]
    exact ⟨g1, g2, g3, hz, hm, he, hn, fun _ => ⟨trivial, trivial⟩, fun h => absurd hsat h⟩
  · simp only [if_neg hsat, setAccOf_frame, accOf_setAccOf, withAccFlags_frame]
    exact ⟨g1, g2, g3, hz, hm, he, hn, fun h => absurd h hsat, fun _ => ⟨rfl, g4⟩⟩

private theorem I40_satBound (p : Prop) [Decidable p] :
    I40 (if p then (0xFFFFFFFF80000000 : U64) else 0x7FFFFFFF) = if p then -2 ^ 31 else 2 ^ 31 - 1 := by
  split <;> decide

/-- **Saturation keeps the ORIGINAL sign.**  When `ShiftBus40` saturates, the bound is chosen by the
sign of the operand before shifting (not by the sign of the shifted pattern): a non-negative
operand gives `0x7FFFFFFF`, a negative one `0xFFFFFFFF80000000`, and the limit flag is set. -/
theorem shiftBus40_sat_original_sign (value : U64) (sv : U16) (dest : RegName) (k : Bool × Fin 2)
    (h : accIndex dest = some k) (c : Core) (hsat : ShiftSaturates c.regs value sv) :
    ∃ c', (shiftBus40 value sv dest).run c = .ok ((), c') ∧
      accOf c'.regs k = (if I40 value < 0 then (0xFFFFFFFF80000000 : U64) else 0x7FFFFFFF) ∧
      I40 (accOf c'.regs k) = (if I40 value < 0 then -2 ^ 31 else 2 ^ 31 - 1) ∧
      c'.regs.flm = 1 := by
  refine ⟨_, shiftBus40_run value sv dest k h c, ?_⟩
  obtain ⟨-, -, -, -, -, -, -, hs, -⟩ := shiftRegs_spec c.regs k value sv
  obtain ⟨hacc, hflm⟩ := hs hsat
  exact ⟨hacc, (congrArg I40 hacc).trans (I40_satBound _), hflm⟩

/-- In logic mode (`s ≠ 0`) there is never saturation and overflow is untouched. -/
theorem shiftBus40_logic_no_saturation (r : Regs) (k : Bool × Fin 2) (value : U64) (sv : U16)
    (hs : r.s ≠ 0) :
    accOf (shiftRegs r k value sv) k = shifted r.s value sv ∧
    (shiftRegs r k value sv).flm = r.flm ∧ (shiftRegs r k value sv).fv = r.fv ∧
    (shiftRegs r k value sv).fvl = r.fvl := by
  obtain ⟨-, -, hfv, -, -, -, -, -, hacc⟩ := shiftRegs_spec r k value sv
  have hns : ¬ ShiftSaturates r value sv := fun hh => hs hh.1
  exact ⟨(hacc hns).1, (hacc hns).2, (hfv hs).1, (hfv hs).2⟩

/-! ### arithmetic mode in exact arithmetic -/

def shiftExact (value : U64) (sv : U16) : Int :=
  if sv.toNat < 0x8000 then I40 value * 2 ^ sv.toNat else I40 value / 2 ^ (2 ^ 16 - sv.toNat)

private theorem shiftExact_nonneg (value : U64) (sv : U16) : 0 ≤ shiftExact value sv ↔ 0 ≤ I40 value := by
  unfold shiftExact
  split
  · exact Int.mul_nonneg_iff_of_pos_right (by positivity)
  · exact Int.ediv_nonneg_iff_of_pos (by positivity)

/-- **Arithmetic shifts against exact arithmetic, saturation included.**  In arithmetic mode
(`s = 0`), with `E` the exact shifted number (`v · 2ⁿ` or `⌊v / 2ᵐ⌋`): the 40-bit shifted value is
`E` wrapped to 40 bits, overflow says `E` does not fit 40 bits, and — because the bound is chosen by
the original sign, which is the sign of `E` — with saturation enabled the destination receives
exactly `E` clamped to 32 bits, the limit flag being set exactly when `E` does not fit 32 bits. -/
theorem shiftRegs_arith_exact (r : Regs) (k : Bool × Fin 2) (value : U64) (sv : U16) (hs : r.s = 0) :
    let E := shiftExact value sv
    let r' := shiftRegs r k value sv
    I40 (shifted r.s value sv) = wrap40 E ∧
    r'.fv = b2u (decide (E < -2 ^ 39 ∨ 2 ^ 39 ≤ E)) ∧
    I40 (accOf r' k) = (if r.sata = 0 then max (-2 ^ 31) (min (2 ^ 31 - 1) E) else wrap40 E) ∧
    r'.flm = (if r.sata = 0 ∧ (E < -2 ^ 31 ∨ 2 ^ 31 ≤ E) then 1 else r.flm) := by
  intro E r'
  obtain ⟨-, hfv, -, -, -, -, -, hsat, hnsat⟩ := shiftRegs_spec r k value sv
  have hsign : 0 ≤ E ↔ 0 ≤ I40 value := shiftExact_nonneg value sv
  have hSE : I40 (shifted r.s value sv) = wrap40 E ∧
      shiftFv value sv = b2u (decide (E < -2 ^ 39 ∨ 2 ^ 39 ≤ E)) := by
    rw [show E = shiftExact value sv from rfl]
    unfold shiftExact shiftFv
    by_cases hl : sv.toNat < 0x8000
    · simp only [hl, if_true]
      exact ⟨by rw [shifted_eq, shl_arith_value value sv r.s hl], trivial⟩
    · simp only [hl, if_false]
      have hv : I40 (shifted r.s value sv) = I40 value / 2 ^ (2 ^ 16 - sv.toNat) := by
        rw [shifted_eq, hs, I40_signExtend]
        exact (toInt_signExtend 40 _ (by decide)).symm.trans (shr_arith_value value sv (by omega))
      -- a 40-bit value, so in range
      have hr := I40_bounds (shifted r.s value sv)
      rw [hv] at hr
      have hfit : ¬ (I40 value / 2 ^ (2 ^ 16 - sv.toNat) < -2 ^ 39 ∨ 2 ^ 39 ≤ I40 value / 2 ^ (2 ^ 16 - sv.toNat)) := by
        omega
      exact ⟨by rw [hv, wrap40_eq_self _ hfit], by simp only [hfit, decide_false]; rfl⟩
  obtain ⟨hS, hF⟩ := hSE
  have hcond : ShiftSaturates r value sv ↔ (r.sata = 0 ∧ (E < -2 ^ 31 ∨ 2 ^ 31 ≤ E)) := by
    unfold ShiftSaturates
    rw [hS, hF, b2u_decide_ne_zero]
    by_cases h40 : E < -2 ^ 39 ∨ 2 ^ 39 ≤ E
    · exact ⟨fun h => ⟨h.2.1, by omega⟩, fun h => ⟨hs, h.1, Or.inl h40⟩⟩
    · rw [wrap40_eq_self E h40]
      exact ⟨fun h => ⟨h.2.1, h.2.2.resolve_left h40⟩, fun h => ⟨hs, h.1, Or.inr h.2⟩⟩
  rw [hcond] at hsat hnsat
  refine ⟨hS, by rw [(hfv hs).1, hF], ?_⟩
  by_cases hc : r.sata = 0 ∧ (E < -2 ^ 31 ∨ 2 ^ 31 ≤ E)
  · obtain ⟨ha, hl⟩ := hsat hc
    refine ⟨?_, hl.trans (if_pos hc).symm⟩
    rw [ha, if_pos hc.1, I40_satBound]
    split <;> omega
  · obtain ⟨ha, hl⟩ := hnsat hc
    refine ⟨?_, hl.trans (if_neg hc).symm⟩
    rw [ha, hS]
    by_cases hsata : r.sata = 0
    · have hfit : ¬ (E < -2 ^ 31 ∨ 2 ^ 31 ≤ E) := fun h => hc ⟨hsata, h⟩
      rw [if_pos hsata, wrap40_eq_self E (by omega)]; omega
    · rw [if_neg hsata]

/-! ## multiply–accumulate: accumulate the OLD product, then multiply -/

theorem run_productToBus40 (unit : Fin 2) (c : Core) :
    (productToBus40 unit).run c =
      .ok (Alu.productToBus40 c.regs.p[unit] c.regs.pe[unit] c.regs.ps[unit], c) := rfl

def mulRegs (r : Regs) (unit : Fin 2) (xSign ySign : Bool) : Regs :=
  { r with p := r.p.set unit (multiply r.x[unit] r.y[unit] r.hwm unit.val xSign ySign).1,
           pe := r.pe.set unit (multiply r.x[unit] r.y[unit] r.hwm unit.val xSign ySign).2 }

theorem run_doMultiplication (unit : Fin 2) (xSign ySign : Bool) (c : Core) :
    (doMultiplication unit xSign ySign).run c = .ok ((), withRegs c (mulRegs c.regs unit xSign ySign)) := rfl

def macAccumulates : MulOp → Bool
  | .mpy | .mpysu => false
  | _ => true

def macAligned : MulOp → Bool
  | .maa | .maasu => true
  | _ => false

def macXSign : MulOp → Bool
  | .mpy | .mac | .maa | .macus => true
  | _ => false
def macYSign : MulOp → Bool
  | .macus | .macuu => false
  | _ => true

def pBus (r : Regs) (unit : Fin 2) : U64 := Alu.productToBus40 r.p[unit] r.pe[unit] r.ps[unit]

def alignP (al : Bool) (v : U64) : U64 := if al then signExtend 24 (v >>> 16) else v

def macRegs (r : Regs) (k : Bool × Fin 2) (op : MulOp) : Regs :=
  mulRegs (if macAccumulates op then
             addSubWrite r k (accOf r k) (alignP (macAligned op) (pBus r 0)) false
           else r) 0 (macXSign op) (macYSign op)

/-- **Multiply–accumulate order.**  `MulGeneric` first (for the accumulate forms) adds the product
register as it was BEFORE this instruction to the accumulator — `AddSub` + saturating write — and
only then launches the new multiplication of `x0`, `y0`; `mpy` / `mpysu` skip the accumulate step. -/
theorem mac_order (op : MulOp) (a : RegName) (k : Bool × Fin 2) (h : accIndex a = some k) (c : Core) :
    (Exec.mulGeneric op a).run c = .ok ((), withRegs c (macRegs c.regs k op)) := by
  have h1 : (op != MulOp.mpy && op != MulOp.mpysu) = macAccumulates op := by cases op <;> rfl
  have h2 : (op == MulOp.maa || op == MulOp.maasu) = macAligned op := by cases op <;> rfl
  unfold Exec.mulGeneric macRegs addSubWrite alignP pBus
  simp only [h1, h2]
  -- the accumulate step for every form at once; only the final choice of signs goes by form
  by_cases hacc : macAccumulates op = true
  · simp only [hacc, if_true, run_bind, run_getAcc _ k h, run_productToBus40, run_addSub_regs,
      run_satAndSetAccAndFlag _ k h, except_ok_bind]
    -- the register file after the accumulate step as a variable: unfolding it eight times is dear
    generalize satSetRegs _ _ _ = R
    cases op <;> exact run_doMultiplication 0 _ _ _
  · simp only [hacc, Bool.false_eq_true, if_false]
    cases op <;> exact run_doMultiplication 0 _ _ _

theorem satSetRegs_mulframe (r : Regs) (k : Bool × Fin 2) (v : U64) :
    (satSetRegs r k v).x = r.x ∧ (satSetRegs r k v).y = r.y ∧ (satSetRegs r k v).hwm = r.hwm ∧
    (satSetRegs r k v).p = r.p ∧ (satSetRegs r k v).pe = r.pe ∧ (satSetRegs r k v).ps = r.ps ∧
    (satSetRegs r k v).sv = r.sv := by
  have h := satSetRegs_keeps r k v
  simp only [Prod.mk.injEq] at h
  exact h.2.2.2

theorem accOf_mulRegs (r : Regs) (unit : Fin 2) (xs ys : Bool) (k : Bool × Fin 2) :
    accOf (mulRegs r unit xs ys) k = accOf r k := by
  obtain ⟨isB, i⟩ := k; cases isB <;> rfl

/-- **The new product is exact** (`mul_exact` at register level): after `DoMultiplication` the
product register of the unit holds the exact 33-bit product of that unit's factors. -/
theorem mulRegs_product (r : Regs) (unit : Fin 2) (xs ys : Bool) :
    I33 (mulRegs r unit xs ys).p[unit] (mulRegs r unit xs ys).pe[unit] =
      factorX xs r.x[unit] * factorY ys r.y[unit] r.hwm unit.val := by
  unfold mulRegs
  simp only [Fin.getElem_fin, Vector.getElem_set_self]
  exact mul_exact _ _ _ _ _ _

theorem I40_of_toInt (w : U64) (h : -2 ^ 39 ≤ w.toInt ∧ w.toInt < 2 ^ 39) : I40 w = w.toInt := by
  unfold I40
  rw [toInt_setWidth_of_le w (by decide : 40 ≤ 64), BitVec.setWidth_eq]
  exact Int.bmod_eq_of_le (by omega) (by omega)

theorem I40_align16 (v : U64) : I40 (signExtend 24 (v >>> 16)) = I40 v / 2 ^ 16 := by
  unfold I40
  rw [signExtend_ushiftRight v 16 (by decide), toInt_sshiftRight_div]

theorem productToBus40_range (p : U32) (pe ps : U16) (hps : ps.toNat < 4) :
    -2 ^ 34 ≤ (Alu.productToBus40 p pe ps).toInt ∧ (Alu.productToBus40 p pe ps).toInt < 2 ^ 34 := by
  -- each of the four readings is a sign extension from at most 35 bits
  have hb : ∀ (bits : Nat) (w : U64), bits ≤ 35 →
      -2 ^ 34 ≤ (signExtend bits w).toInt ∧ (signExtend bits w).toInt < 2 ^ 34 := by
    intro bits w h35
    have h1 := BitVec.le_toInt (w.setWidth bits)
    have h2 := @BitVec.toInt_lt _ (w.setWidth bits)
    have hp : (2 : Int) ^ (bits - 1) ≤ 2 ^ 34 := pow_le_pow_right₀ (by decide) (by omega)
    rw [toInt_signExtend bits w (by omega)]
    omega
  rcases u16_lt_four ps hps with rfl | rfl | rfl | rfl
  · exact hb 33 _ (by decide)
  · exact hb 32 _ (by decide)
  · exact hb 34 _ (by decide)
  · exact hb 35 _ (by decide)

/-- `ProductToBus40` of the unit's product register as a number (`productToBus40_spec` says which). -/
def P40 (r : Regs) (unit : Fin 2) : Int := (pBus r unit).toInt

theorem I40_alignP (r : Regs) (unit : Fin 2) (al : Bool) (hps : r.ps[unit].toNat < 4) :
    I40 (alignP al (pBus r unit)) = if al then P40 r unit / 2 ^ 16 else P40 r unit := by
  have hr : -2 ^ 34 ≤ (pBus r unit).toInt ∧ (pBus r unit).toInt < 2 ^ 34 :=
    productToBus40_range _ _ _ hps
  have hI : I40 (pBus r unit) = P40 r unit := I40_of_toInt _ ⟨by omega, by omega⟩
  unfold alignP
  rw [apply_ite I40, I40_align16, hI]

/-- **Multiply–accumulate, in numbers.**  With `P` the OLD product register `p0` as
`ProductToBus40` reads it (for `maa` / `maasu` aligned: `⌊P / 2¹⁶⌋`):
* afterwards `p0 : pe0` hold the exact new product of `x0`, `y0` under the form's sign selection;
* for the accumulate forms (`mac`, `macus`, `macuu`, `macsu`, `maa`, `maasu`) the accumulator
  receives `old_acc + P` wrapped to 40 bits (clamped to 32 bits and `flm` set when saturation-on-write
  is enabled and it does not fit), with carry / overflow (latched) / zero / minus / extension of that
  addition — all computed from the product BEFORE the new multiplication;
* for `mpy` / `mpysu` nothing but `p0 : pe0` changes. -/
theorem mac_order_spec (r : Regs) (k : Bool × Fin 2) (op : MulOp) (hps : r.ps[(0 : Fin 2)].toNat < 4) :
    let r' := macRegs r k op
    I33 r'.p[(0 : Fin 2)] r'.pe[(0 : Fin 2)] =
      factorX (macXSign op) r.x[(0 : Fin 2)] * factorY (macYSign op) r.y[(0 : Fin 2)] r.hwm 0 ∧
    (macAccumulates op = true →
      let P : Int := if macAligned op then P40 r 0 / 2 ^ 16 else P40 r 0
      let exact : Int := I40 (accOf r k) + P
      I40 (accOf r' k) = (if r.sata = 0 then max (-2 ^ 31) (min (2 ^ 31 - 1) (wrap40 exact)) else wrap40 exact) ∧
      r'.fc0 = b2u (decide (2 ^ 40 ≤ U40 (accOf r k) + U40 (alignP (macAligned op) (pBus r 0)))) ∧
      r'.fv = b2u (decide (exact < -2 ^ 39 ∨ 2 ^ 39 ≤ exact)) ∧
      r'.fvl = (if exact < -2 ^ 39 ∨ 2 ^ 39 ≤ exact then 1 else r.fvl) ∧
      r'.fz = b2u (decide (wrap40 exact = 0)) ∧ r'.fm = b2u (decide (wrap40 exact < 0)) ∧
      r'.fe = b2u (decide (wrap40 exact < -2 ^ 31 ∨ 2 ^ 31 ≤ wrap40 exact)) ∧
      r'.flm = (if r.sata = 0 ∧ (wrap40 exact < -2 ^ 31 ∨ 2 ^ 31 ≤ wrap40 exact) then 1 else r.flm)) ∧
    (macAccumulates op = false →
      r' = mulRegs r 0 (macXSign op) (macYSign op) ∧ ∀ k', accOf r' k' = accOf r k') := by
  intro r'
  refine ⟨?_, ?_, ?_⟩
  · rw [show r' = macRegs r k op from rfl]
    unfold macRegs
    rw [mulRegs_product]
    by_cases hacc : macAccumulates op = true
    · rw [if_pos hacc]
      unfold addSubWrite
      simp only [satSetRegs_mulframe]; rfl
    · rw [if_neg hacc]; rfl
  · intro hacc P exact
    have hsp := addSubWrite_spec r k (accOf r k) (alignP (macAligned op) (pBus r 0)) false exact (by
      show exact = I40 (accOf r k) + I40 (alignP (macAligned op) (pBus r 0))
      rw [I40_alignP r 0 (macAligned op) hps])
    simp only [Bool.false_eq_true, if_false] at hsp
    have e : r' = mulRegs (addSubWrite r k (accOf r k) (alignP (macAligned op) (pBus r 0)) false) 0
        (macXSign op) (macYSign op) := by
      show macRegs r k op = _
      unfold macRegs; rw [if_pos hacc]
    rw [e, accOf_mulRegs]
    -- the flags of `mulRegs X …` are those of `X`; with `X` a variable that is cheap to see
    generalize addSubWrite r k (accOf r k) (alignP (macAligned op) (pBus r 0)) false = X at hsp ⊢
    exact hsp
  · intro hacc
    have hacc' : ¬ macAccumulates op = true := by rw [hacc]; simp
    have e : r' = mulRegs r 0 (macXSign op) (macYSign op) := by
      show macRegs r k op = _
      unfold macRegs; rw [if_neg hacc']
    exact ⟨e, fun k' => by rw [e, accOf_mulRegs]⟩

/-! ## `ProductSum` -/

def sumBaseValue (r : Regs) (k : Bool × Fin 2) : SumBase → U64
  | .zero => 0
  | .acc => accOf r k
  | .sv => signExtend 32 ((r.sv.setWidth 64 : U64) <<< 16)
  | .svRnd => signExtend 32 ((r.sv.setWidth 64 : U64) <<< 16) ||| 0x8000

def mergeFlags (r : Regs) (same : Bool) (tempC tempV : U16) : Regs :=
  if same then { r with fc0 := r.fc0 ||| tempC, fv := r.fv ||| tempV }
  else { r with fc0 := r.fc0 ^^^ tempC, fv := r.fv ^^^ tempV }

def productSumRegs (r : Regs) (k : Bool × Fin 2) (base : SumBase) (subP0 p0Align subP1 p1Align : Bool) : Regs :=
  let A := alignP p0Align (pBus r 0)
  let B := alignP p1Align (pBus r 1)
  let C := sumBaseValue r k base
  let o1 := Alu.addSub C A subP0
  let o2 := Alu.addSub o1.result B subP1
  satSetRegs (mergeFlags (withAddSubFlags (withAddSubFlags r o1) o2) (subP0 == subP1) o1.fc0 o1.fv) k o2.result

/-- The part of `ProductSum` after its three operands are read. -/
private theorem productSum_tail (C A B : U64) (s0 s1 : Bool) (acc : RegName) (k : Bool × Fin 2)
    (h : accIndex acc = some k) (c : Core) :
    (do let result ← Interp.addSub C A s0
        let tempC := (← getRegs).fc0
        let tempV := (← getRegs).fv
        let result ← Interp.addSub result B s1
        if s0 == s1 then
          modifyRegs fun r => { r with fc0 := r.fc0 ||| tempC, fv := r.fv ||| tempV }
        else
          modifyRegs fun r => { r with fc0 := r.fc0 ^^^ tempC, fv := r.fv ^^^ tempV }
        satAndSetAccAndFlag acc result : Exec Unit).run c =
      .ok ((), withRegs c (satSetRegs (mergeFlags (withAddSubFlags (withAddSubFlags c.regs (Alu.addSub C A s0))
          (Alu.addSub (Alu.addSub C A s0).result B s1)) (s0 == s1) (Alu.addSub C A s0).fc0 (Alu.addSub C A s0).fv) k
          (Alu.addSub (Alu.addSub C A s0).result B s1).result)) := by
  generalize (s0 == s1) = same
  simp only [run_bind, run_getRegs, run_addSub_regs, except_ok_bind, run_ite, run_modifyRegs,
    run_satAndSetAccAndFlag _ k h]
  cases same <;> rfl

theorem productSum_run (base : SumBase) (acc : RegName) (k : Bool × Fin 2) (h : accIndex acc = some k)
    (subP0 p0Align subP1 p1Align : Bool) (c : Core) :
    (Exec.productSum base acc subP0 p0Align subP1 p1Align).run c =
      .ok ((), withRegs c (productSumRegs c.regs k base subP0 p0Align subP1 p1Align)) := by
  unfold Exec.productSum
  rw [run_bind, run_productToBus40, except_ok_bind, run_bind, run_productToBus40, except_ok_bind]
  cases base
  · rw [run_bind, run_pure, except_ok_bind]
    exact productSum_tail _ _ _ subP0 subP1 acc k h c
  · rw [run_bind, run_getAcc _ k h, except_ok_bind]
    exact productSum_tail _ _ _ subP0 subP1 acc k h c
  · rw [run_bind, run_getRegs, except_ok_bind, run_bind, run_pure, except_ok_bind]
    exact productSum_tail _ _ _ subP0 subP1 acc k h c
  · rw [run_bind, run_getRegs, except_ok_bind, run_bind, run_pure, except_ok_bind]
    exact productSum_tail _ _ _ subP0 subP1 acc k h c

/-! ### what `ProductSum` computes -/

private theorem b2u_or (x y : Bool) : b2u x ||| b2u y = b2u (x || y) := by
  cases x <;> cases y <;> decide

private theorem b2u_xor (x y : Bool) : b2u x ^^^ b2u y = b2u (x ^^ y) := by
  cases x <;> cases y <;> decide

theorem addSub_result_U40 (a b : U64) (sub : Bool) :
    U40 (Alu.addSub a b sub).result =
      if sub then (U40 a + 2 ^ 40 - U40 b) % 2 ^ 40 else (U40 a + U40 b) % 2 ^ 40 := by
  rw [addSub_result, U40_eq, setWidth_signExtend64 _ (by decide), U40_eq, U40_eq]
  have hb := (b.setWidth 40).isLt
  cases sub
  · exact BitVec.toNat_add _ _
  · simp only [if_true, BitVec.toNat_sub]
    congr 1; omega

private theorem mergeFlags_frame (r : Regs) (same : Bool) (tc tv : U16) :
    (mergeFlags r same tc tv).sata = r.sata ∧ (mergeFlags r same tc tv).flm = r.flm ∧
    (mergeFlags r same tc tv).fvl = r.fvl ∧
    (mergeFlags r same tc tv).fc0 = (if same then r.fc0 ||| tc else r.fc0 ^^^ tc) ∧
    (mergeFlags r same tc tv).fv = (if same then r.fv ||| tv else r.fv ^^^ tv) := by
  unfold mergeFlags; cases same <;> exact ⟨rfl, rfl, rfl, rfl, rfl⟩

private theorem wrap40_step (x y : Int) (sub : Bool) :
    wrap40 (if sub then wrap40 x - y else wrap40 x + y) = wrap40 (if sub then x - y else x + y) := by
  unfold wrap40
  cases sub
  · exact Int.bmod_add_bmod
  · exact Int.bmod_sub_bmod

/-- **`ProductSum`.**  With `C` the base operand (zero / the accumulator / `sv·2¹⁶` / `sv·2¹⁶ + 0x8000`),
`P0'`, `P1'` the two product registers as `ProductToBus40` reads them, optionally aligned
(`⌊P / 2¹⁶⌋`, i.e. `>> 16` sign-extended) — `I40_alignP`:
* the accumulator receives `C ± P0' ± P1'`, the exact integer sum wrapped to 40 bits (clamped to 32
  bits with `flm` set when saturation-on-write is enabled and it does not fit); zero / minus /
  extension are the flags of that wrapped sum;
* carry and overflow are the code's MERGE of the flags of the two successive 40-bit `AddSub`s
  (first `C ± P0'`, then `wrap40(C ± P0') ± P1'`): OR when both products go the same direction, XOR
  otherwise — this is what the code computes, not the carry / overflow of the three-operand sum;
* the overflow latch `fvl` is set when either `AddSub` overflowed (it is not part of the merge). -/
theorem productSum_spec (r : Regs) (k : Bool × Fin 2) (base : SumBase) (s0 al0 s1 al1 : Bool)
    (hps0 : r.ps[(0 : Fin 2)].toNat < 4) (hps1 : r.ps[(1 : Fin 2)].toNat < 4) :
    let A := alignP al0 (pBus r 0)
    let B := alignP al1 (pBus r 1)
    let Cp := sumBaseValue r k base
    let P0 : Int := if al0 then P40 r 0 / 2 ^ 16 else P40 r 0
    let P1 : Int := if al1 then P40 r 1 / 2 ^ 16 else P40 r 1
    let e1 : Int := if s0 then I40 Cp - P0 else I40 Cp + P0
    let e2 : Int := if s1 then wrap40 e1 - P1 else wrap40 e1 + P1
    let total : Int := if s1 then e1 - P1 else e1 + P1
    let u1 : Nat := if s0 then (U40 Cp + 2 ^ 40 - U40 A) % 2 ^ 40 else (U40 Cp + U40 A) % 2 ^ 40
    let c1 : Bool := if s0 then decide (U40 Cp < U40 A) else decide (2 ^ 40 ≤ U40 Cp + U40 A)
    let c2 : Bool := if s1 then decide (u1 < U40 B) else decide (2 ^ 40 ≤ u1 + U40 B)
    let v1 : Bool := decide (e1 < -2 ^ 39 ∨ 2 ^ 39 ≤ e1)
    let v2 : Bool := decide (e2 < -2 ^ 39 ∨ 2 ^ 39 ≤ e2)
    let r' := productSumRegs r k base s0 al0 s1 al1
    I40 A = P0 ∧ I40 B = P1 ∧
    I40 (accOf r' k) = (if r.sata = 0 then max (-2 ^ 31) (min (2 ^ 31 - 1) (wrap40 total)) else wrap40 total) ∧
    r'.fc0 = b2u (if s0 == s1 then c1 || c2 else c1 ^^ c2) ∧
    r'.fv = b2u (if s0 == s1 then v1 || v2 else v1 ^^ v2) ∧
    r'.fvl = (if (e1 < -2 ^ 39 ∨ 2 ^ 39 ≤ e1) ∨ (e2 < -2 ^ 39 ∨ 2 ^ 39 ≤ e2) then 1 else r.fvl) ∧
    r'.fz = b2u (decide (wrap40 total = 0)) ∧ r'.fm = b2u (decide (wrap40 total < 0)) ∧
    r'.fe = b2u (decide (wrap40 total < -2 ^ 31 ∨ 2 ^ 31 ≤ wrap40 total)) ∧
    r'.flm = (if r.sata = 0 ∧ (wrap40 total < -2 ^ 31 ∨ 2 ^ 31 ≤ wrap40 total) then 1 else r.flm) := by
  intro A B Cp P0 P1 e1 e2 total u1 c1 c2 v1 v2 r'
  have hA : I40 A = P0 := I40_alignP r 0 al0 hps0
  have hB : I40 B = P1 := I40_alignP r 1 al1 hps1
  have hv1 : I40 (Alu.addSub Cp A s0).result = wrap40 e1 := by rw [addSub_value, hA]
  have hc1 : (Alu.addSub Cp A s0).fc0 = b2u c1 := addSub_carry Cp A s0
  have ho1 : (Alu.addSub Cp A s0).fv = b2u v1 := by rw [addSub_overflow, hA]
  have hu1 : U40 (Alu.addSub Cp A s0).result = u1 := addSub_result_U40 Cp A s0
  have hv2 : I40 (Alu.addSub (Alu.addSub Cp A s0).result B s1).result = wrap40 total := by
    rw [addSub_value, hv1, hB]; exact wrap40_step e1 P1 s1
  have hc2 : (Alu.addSub (Alu.addSub Cp A s0).result B s1).fc0 = b2u c2 := by rw [addSub_carry, hu1]
  have ho2 : (Alu.addSub (Alu.addSub Cp A s0).result B s1).fv = b2u v2 := by
    rw [addSub_overflow, hv1, hB]
  have hwf2 := addSub_wf (Alu.addSub Cp A s0).result B s1
  rw [show r' = productSumRegs r k base s0 al0 s1 al1 from rfl]
  unfold productSumRegs
  simp only []
  generalize Alu.addSub Cp A s0 = o1 at *
  generalize Alu.addSub o1.result B s1 = o2 at *
  obtain ⟨m1, m2, m3, m4, m5⟩ :=
    mergeFlags_frame (withAddSubFlags (withAddSubFlags r o1) o2) (s0 == s1) o1.fc0 o1.fv
  obtain ⟨g1, g2, g3, g4, g5⟩ :=
    satSetRegs_spec (mergeFlags (withAddSubFlags (withAddSubFlags r o1) o2) (s0 == s1) o1.fc0 o1.fv) k o2.result hwf2
  obtain ⟨f1, f2, f3⟩ :=
    satSetRegs_frame (mergeFlags (withAddSubFlags (withAddSubFlags r o1) o2) (s0 == s1) o1.fc0 o1.fv) k o2.result
  rw [hv2] at g1 g2 g3 g4 g5
  simp only [withAddSubFlags_frame] at m1 m2 m3 m4 m5
  rw [m1] at g1 g5
  rw [m2] at g5
  refine ⟨hA, hB, g1, ?_, ?_, ?_, g2, g3, g4, g5⟩
  · rw [f1, m4, hc1, hc2, b2u_or, b2u_xor, Bool.or_comm, Bool.xor_comm]
    split <;> rfl
  · rw [f2, m5, ho1, ho2, b2u_or, b2u_xor, Bool.or_comm, Bool.xor_comm]
    split <;> rfl
  · rw [f3, m3, ho1, ho2, latch_b2u, latch_b2u]
    by_cases hx1 : e1 < -2 ^ 39 ∨ 2 ^ 39 ≤ e1 <;> by_cases hx2 : e2 < -2 ^ 39 ∨ 2 ^ 39 ≤ e2 <;>
      simp only [hx1, hx2, if_true, if_false, or_self, or_true, or_false]

theorem sumBaseValue_spec (r : Regs) (k : Bool × Fin 2) (base : SumBase) :
    I40 (sumBaseValue r k base) =
      match base with
      | .zero => 0
      | .acc => I40 (accOf r k)
      | .sv => r.sv.toInt * 2 ^ 16
      | .svRnd => r.sv.toInt * 2 ^ 16 + 0x8000 := by
  have h1 := BitVec.le_toInt r.sv
  have h2 := @BitVec.toInt_lt _ r.sv
  have hX := toInt_high16 r.sv
  cases base
  · show I40 (0 : U64) = 0; decide
  · rfl
  · show I40 (signExtend 32 ((r.sv.setWidth 64 : U64) <<< 16)) = r.sv.toInt * 2 ^ 16
    rw [I40_of_toInt _ (by rw [hX]; omega), hX]
  · show I40 (signExtend 32 ((r.sv.setWidth 64 : U64) <<< 16) ||| 0x8000) = r.sv.toInt * 2 ^ 16 + 0x8000
    -- bit 15 of `sv << 16` is clear, so the rounding constant is added
    have h0 : signExtend 32 ((r.sv.setWidth 64 : U64) <<< 16) &&& 0x8000 = 0 := by
      have hb : (signExtend 32 ((r.sv.setWidth 64 : U64) <<< 16)).getLsbD 15 = false := by
        unfold signExtend
        rw [BitVec.getLsbD_signExtend, BitVec.getLsbD_setWidth, BitVec.getLsbD_shiftLeft]
        simp
      rw [show (0x8000 : U64) = BitVec.twoPow 64 15 by decide, BitVec.and_twoPow, hb]
      rfl
    have hY : (signExtend 32 ((r.sv.setWidth 64 : U64) <<< 16) + 0x8000).toInt = r.sv.toInt * 2 ^ 16 + 0x8000 := by
      rw [BitVec.toInt_add, hX, show (0x8000 : U64).toInt = 0x8000 by decide]
      exact Int.bmod_eq_of_le (by omega) (by omega)
    rw [← BitVec.add_eq_or_of_and_eq_zero _ _ h0, I40_of_toInt _ (by rw [hY]; omega), hY]

/-! ## the hypotheses are satisfiable, the effects are visible -/

/-- `Exp` on a few values: 0 and −1 have 39 redundant sign bits, 1 has 38, the largest positive
value none (the result is −8). -/
example : exp 0 = 31 ∧ exp 0xFFFFFFFFFF = 31 ∧ exp 1 = 30 ∧ exp 0x7FFFFFFFFF = 0xFFF8 ∧
    exp 0xFFFFFF8000000000 = 0xFFF8 := by decide

/-- The hypothesis of `exp_normalises` holds for a small value (26 redundant sign bits, shift 18). -/
example : ∃ n, IsRedundantSignCount (0x1234 : U64) n ∧ 8 ≤ n ∧ exp 0x1234 = 18 :=
  ⟨_, expLoop_count _, by decide, by decide⟩

/-- Saturation uses the ORIGINAL sign: `0x4000000000 << 1` has bit 39 set (a negative pattern) but
the operand was positive, so the destination gets `0x7FFFFFFF`; in logic mode nothing saturates. -/
example : ShiftSaturates { ({} : Regs) with sata := 0 } 0x4000000000 1 ∧
    accOf (shiftRegs { ({} : Regs) with sata := 0 } (false, 0) 0x4000000000 1) (false, 0) = 0x7FFFFFFF ∧
    (shiftRegs { ({} : Regs) with sata := 0 } (false, 0) 0x4000000000 1).flm = 1 ∧
    (shiftRegs { ({} : Regs) with sata := 0 } (false, 0) 0x4000000000 1).fv = 1 ∧
    accOf (shiftRegs { ({} : Regs) with sata := 0, s := 1 } (false, 0) 0x4000000000 1) (false, 0)
      = 0xFFFFFF8000000000 ∧
    ¬ ShiftSaturates { ({} : Regs) with sata := 0, s := 1 } 0x4000000000 1 := by decide

/-- An arithmetic right shift of a negative value that still does not fit 32 bits saturates low. -/
example : accOf (shiftRegs { ({} : Regs) with sata := 0 } (false, 0) 0xFFFFFF8000000000 0xFFFF) (false, 0)
      = 0xFFFFFFFF80000000 := by decide

/-- `mac`: the accumulator gets `100 + 7` (the OLD product), the product register the NEW product
`3 · 5`; `mpy` leaves the accumulator alone. -/
example :
    accOf (macRegs { ({} : Regs) with a := #v[100, 0], p := #v[7, 0], x := #v[3, 0], y := #v[5, 0] }
      (false, 0) .mac) (false, 0) = 107 ∧
    (macRegs { ({} : Regs) with a := #v[100, 0], p := #v[7, 0], x := #v[3, 0], y := #v[5, 0] }
      (false, 0) .mac).p[(0 : Fin 2)] = 15 ∧
    accOf (macRegs { ({} : Regs) with a := #v[100, 0], p := #v[7, 0], x := #v[3, 0], y := #v[5, 0] }
      (false, 0) .mpy) (false, 0) = 100 ∧
    accOf (macRegs { ({} : Regs) with a := #v[100, 0], p := #v[0x70000, 0], x := #v[3, 0], y := #v[0xFFFF, 0] }
      (false, 0) .maa) (false, 0) = 107 ∧
    (macRegs { ({} : Regs) with a := #v[100, 0], p := #v[0x70000, 0], x := #v[3, 0], y := #v[0xFFFF, 0] }
      (false, 0) .maa).p[(0 : Fin 2)] = 0xFFFFFFFD := by decide

/-- `ProductSum`: `acc + p0 − p1 = 100 + 7 − 9`, and a case where the merged carry differs from a
single `AddSub`'s. -/
example :
    accOf (productSumRegs { ({} : Regs) with a := #v[100, 0], p := #v[7, 9] } (false, 0) .acc
      false false true false) (false, 0) = 98 ∧
    (productSumRegs { ({} : Regs) with a := #v[100, 0], p := #v[7, 9] } (false, 0) .acc
      false false true false).fc0 = 0 ∧
    (productSumRegs { ({} : Regs) with a := #v[1, 0], p := #v[7, 9] } (false, 0) .acc
      true false true false).fc0 = 1 := by decide

end Teakra.Interp
