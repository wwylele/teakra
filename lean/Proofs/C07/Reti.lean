import Proofs.C07.Entry
/-!
# C07 (core) — return from interrupt: `reti`, `retic`

`reti cond` / `retic cond` (`TeakraModel/Exec/Control.lean`; `retid` / `retidc` are `UNREACHABLE`
in the C++ and in the model): if the condition passes, `PopPC`, `ie := 1`, and for `retic` a
`ContextRestore`.
-/
namespace Teakra
open Teakra Exec ExecLemmas Interp Sys

/-- **`reti cond`, closed form**: nothing if the condition fails; otherwise `PopPC` and then
`ie := 1`. -/
theorem reti_run (cond : Nat) (c : Core) :
    (Exec.reti_Cond cond).run c =
      if condVal (Cond.name cond) c.regs = true then
        (popPC.run c >>= fun x => .ok ((), { x.2 with regs := { x.2.regs with ie := 1 } }))
      else .ok ((), c) := by
  unfold Exec.reti_Cond
  rw [run_ifCond, run_bind]
  rfl

/-- **`retic cond`, closed form**: as `reti`, then `ContextRestore`. -/
theorem retic_run (cond : Nat) (c : Core) :
    (Exec.retic_Cond cond).run c =
      if condVal (Cond.name cond) c.regs = true then
        (popPC.run c >>= fun x =>
          .ok ((), { x.2 with regs := contextRestorePure { x.2.regs with ie := 1 } }))
      else .ok ((), c) := by
  unfold Exec.retic_Cond
  rw [run_ifCond]
  simp only [run_bind, run_modifyRegs, except_ok_bind, contextRestore_run]

def restoreIf (ctx : Bool) (r : Regs) : Regs := if ctx then contextRestorePure r else r

/-- Both forms at once: `retic` is `reti` with the `ContextRestore`. -/
theorem retiIf_run (ctx : Bool) (cond : Nat) (c : Core) :
    (if ctx then Exec.retic_Cond cond else Exec.reti_Cond cond).run c =
      if condVal (Cond.name cond) c.regs = true then
        (popPC.run c >>= fun x => .ok ((), { x.2 with regs := restoreIf ctx { x.2.regs with ie := 1 } }))
      else .ok ((), c) := by
  cases ctx
  · exact reti_run cond c
  · exact retic_run cond c

theorem cntx_run (c : Core) :
    Exec.cntx_s.run c = .ok ((), { c with regs := contextStorePure c.regs }) ∧
    Exec.cntx_r.run c = .ok ((), { c with regs := contextRestorePure c.regs }) :=
  ⟨contextStore_run c, contextRestore_run c⟩

theorem eint_dint_run (c : Core) :
    Exec.eint.run c = .ok ((), { c with regs := { c.regs with ie := 1 } }) ∧
    Exec.dint.run c = .ok ((), { c with regs := { c.regs with ie := 0 } }) := ⟨rfl, rfl⟩

/-- **What a return from interrupt does to the interrupt registers.**  If the condition passes and
the two stack reads succeed, `reti`/`retic` set `ie = 1`, add 2 to `sp`, set `pc` to the value
assembled from the two popped words, and leave `ip`, `ipv`, `ic`, `rep` alone (so a request that
is still pending is delivered at the first boundary after the return — `enabled_enters`).  `retic`
additionally applies `contextRestorePure`; with `cntx_r_cntx_s` (C08) this undoes the
`contextStorePure` of an entry made with context switch. -/
theorem reti_effect (ctx : Bool) (cond : Nat) (c c' : Core)
    (hc : condVal (Cond.name cond) c.regs = true)
    (h : (if ctx then Exec.retic_Cond cond else Exec.reti_Cond cond).run c = .ok ((), c')) :
    ∃ x1 x2, c.busRead c.regs.sp = .ok x1 ∧ x1.2.busRead (c.regs.sp + 1) = .ok x2 ∧
      (popPcValue c.regs.cpc x1.1 x2.1).toNat < 0x40000 ∧
      intPart c'.regs = { intPart c.regs with ie := 1, sp := c.regs.sp + 2,
                                               pc := popPcValue c.regs.cpc x1.1 x2.1 } ∧
      c'.regs = restoreIf ctx
        ({ c.regs with sp := c.regs.sp + 2, pc := popPcValue c.regs.cpc x1.1 x2.1, ie := 1 } : Regs) ∧
      c'.idle = x2.2.idle := by
  rw [retiIf_run, if_pos hc, popPC_run] at h
  obtain ⟨x, hx, h⟩ := Except.bind_eq_ok.mp h
  obtain ⟨x1, h1, hx⟩ := Except.bind_eq_ok.mp hx
  obtain ⟨x2, h2, hx⟩ := Except.bind_eq_ok.mp hx
  by_cases hp : (popPcValue c.regs.cpc x1.1 x2.1).toNat < 0x40000
  · rw [if_pos hp] at hx
    cases hx; cases h
    refine ⟨x1, x2, h1, h2, hp, ?_, rfl, rfl⟩
    cases ctx
    · rfl
    · simp only [restoreIf, if_true, intPart_contextRestore]; rfl
  · rw [if_neg hp] at hx; cases hx
end Teakra
