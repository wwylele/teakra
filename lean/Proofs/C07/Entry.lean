import Proofs.Cycle.Poll
import Proofs.Lemmas.CoreBus
import Proofs.C08.Ctx
/-!
# C07 (core) — what an interrupt entry does

The decision of the interrupt block is in `Proofs/Cycle/Poll.lean` (`interruptCheck_eq_decision`).
Here: the two entry sequences at bus level (`enterLine_run`, `enterVectored_run`), their effect on
the registers the interrupt machinery uses (`entry_effect`), and the named consequences.
-/
namespace Teakra
open Teakra Exec ExecLemmas Interp Sys

/-! ## the registers of the interrupt block that no context switch touches -/

structure IntPart where
  ie : U16
  ip : Vector U16 3
  ipv : U16
  ic : Vector U16 3
  sp : U16
  pc : U32
  rep : Bool
  cpc : U16

def intPart (r : Regs) : IntPart :=
  { ie := r.ie, ip := r.ip, ipv := r.ipv, ic := r.ic, sp := r.sp, pc := r.pc, rep := r.rep, cpc := r.cpc }

theorem intPart_setCtx (r : Regs) (n : CtxPart) : intPart (setCtx r n) = intPart r := rfl
theorem intPart_swapAr (r : Regs) (i : Fin 2) : intPart (swapArPure r i) = intPart r := rfl
theorem intPart_swapArp (r : Regs) (i : Fin 4) : intPart (swapArpPure r i) = intPart r := rfl
theorem intPart_ssr (r : Regs) : intPart (shadowSwapRegistersPure r) = intPart r := rfl

theorem intPart_shadowSwap (r : Regs) : intPart (shadowSwapPure r) = intPart r := by
  unfold shadowSwapPure swapAllArArpPure
  simp only [intPart_swapAr, intPart_swapArp, intPart_ssr]

theorem intPart_contextStore (r : Regs) : intPart (contextStorePure r) = intPart r :=
  (intPart_setCtx _ _).trans ((intPart_shadowSwap _).trans (intPart_setCtx _ _))

theorem intPart_contextRestore (r : Regs) : intPart (contextRestorePure r) = intPart r :=
  (intPart_setCtx _ _).trans ((intPart_shadowSwap _).trans (intPart_setCtx _ _))

/-! ## closed form of the two entry sequences -/

def lineVector (i : Fin 3) : U32 := BitVec.ofNat 32 (0x0006 + i.val * 8)

def entryRegs (i : Fin 3) (r : Regs) : Regs :=
  let r' : Regs := { r with ip := vset r.ip i 0, ie := 0, sp := r.sp - 2, pc := lineVector i }
  if r.ic.toArray.getD i 0 != 0 then contextStorePure r' else r'

def vecEntryRegs (addr : U32) (ctx : Bool) (r : Regs) : Regs :=
  let r' : Regs := { r with ipv := 0, ie := 0, sp := r.sp - 2, pc := addr }
  if ctx then contextStorePure r' else r'

/-- The shape both entry sequences have at bus level: the two stack writes of `PushPC`, then the
register file `R` (which may read the latches after the writes) and `idle := false`.  With both slots in ordinary
memory the result is `pushedPC` of `Lemmas/CoreBus.lean` with those registers (`pushedThen_ordinary`); for `entryRegs`
that state has the name `enteredLine` in `C08Stack/Interrupt.lean`. -/
def pushedThen (c : Core) (R : Core → Regs) : Except Stop (Unit × Core) := do
  let c1 ← c.busWrite (c.regs.sp - 1) (pcWords c.regs).1
  let c2 ← c1.busWrite (c.regs.sp - 2) (pcWords c.regs).2
  .ok ((), { c2 with regs := R c2, idle := false })

theorem pushedThen_ok {c c' : Core} {R : Core → Regs} (h : pushedThen c R = .ok ((), c')) :
    ∃ c1 c2, c.busWrite (c.regs.sp - 1) (pcWords c.regs).1 = .ok c1 ∧
      c1.busWrite (c.regs.sp - 2) (pcWords c.regs).2 = .ok c2 ∧ c' = { c2 with regs := R c2, idle := false } := by
  obtain ⟨c1, h1, h⟩ := Except.bind_eq_ok.mp h
  obtain ⟨c2, h2, h⟩ := Except.bind_eq_ok.mp h
  cases h
  exact ⟨c1, c2, h1, h2, rfl⟩

theorem pushedThen_ordinary (c : Core) (R : Core → Regs) (a1 a2 : U32)
    (h1 : OrdinaryAt c.bus (c.regs.sp - 1) a1) (h2 : OrdinaryAt c.bus (c.regs.sp - 2) a2) :
    pushedThen c R = .ok ((),
      { pushedPC c a1 a2 with regs := R { pushedPC c a1 a2 with regs := c.regs }, idle := false }) := by
  unfold pushedThen
  rw [busWrite_ordinary c _ _ a1 h1, except_ok_bind]
  have e := busWrite_ordinary
    ({ c with bus := { c.bus with mem := c.bus.mem.write (stackCell a1) (pcWords c.regs).1 }
              log := ⟨Mem.byteAddr a1, true, (pcWords c.regs).1⟩ :: c.log } : Core)
    (c.regs.sp - 2) (pcWords c.regs).2 a2 (h2.after_write _)
  rw [e]
  rfl

/-- The common start of both entry sequences: a register update that leaves `sp`, `pc`, `cpc` alone,
then `PushPC` at bus level, then the rest `K`. -/
theorem modify_pushPC_run (m : Regs → Regs) (K : Exec Unit) (c : Core) (hsp : (m c.regs).sp = c.regs.sp)
    (hw : pcWords (m c.regs) = pcWords c.regs) :
    StateT.run (do modifyRegs m; pushPC; K) c =
      (do let c1 ← c.busWrite (c.regs.sp - 1) (pcWords c.regs).1
          let c2 ← c1.busWrite (c.regs.sp - 2) (pcWords c.regs).2
          K.run { c2 with regs := { m c.regs with sp := c.regs.sp - 2 } }) := by
  rw [run_bind, run_modifyRegs, except_ok_bind, snd_mk, run_bind, pushPC_on, hw, hsp, bind_assoc]
  refine congrArg (_ >>= ·) (funext fun c1 => ?_)
  rw [bind_assoc]
  rfl

/-- **Entry of line `i`, closed form**: the two stack writes of `PushPC` (bus level), then the
register file `entryRegs i` and `idle := false`. -/
theorem enterLine_run (i : Fin 3) (c : Core) :
    (enterLine i).run c =
      (do let c1 ← c.busWrite (c.regs.sp - 1) (pcWords c.regs).1
          let c2 ← c1.busWrite (c.regs.sp - 2) (pcWords c.regs).2
          .ok ((), { c2 with regs := entryRegs i c.regs, idle := false })) := by
  unfold enterLine
  rw [modify_pushPC_run _ _ c rfl rfl]
  refine congrArg (_ >>= ·) (funext fun c1 => congrArg (_ >>= ·) (funext fun c2 => ?_))
  simp only [except_ok_bind, run_bind, run_modifyRegs, run_modify, run_getRegs]
  unfold entryRegs
  by_cases hic : (c.regs.ic.toArray.getD i 0 != 0) = true
  · simp only [hic, if_true]; rw [contextStore_run]; rfl
  · simp only [hic]; rfl

theorem enterVectored_run (c : Core) :
    enterVectored.run c =
      (do let c1 ← c.busWrite (c.regs.sp - 1) (pcWords c.regs).1
          let c2 ← c1.busWrite (c.regs.sp - 2) (pcWords c.regs).2
          .ok ((), { c2 with regs := vecEntryRegs c2.vaddr c2.vctx c.regs, idle := false })) := by
  unfold enterVectored
  rw [modify_pushPC_run _ _ c rfl rfl]
  refine congrArg (_ >>= ·) (funext fun c1 => congrArg (_ >>= ·) (funext fun c2 => ?_))
  simp only [except_ok_bind, run_bind, run_modifyRegs, run_modify, run_get]
  unfold vecEntryRegs
  by_cases hic : c2.vctx = true
  · simp only [hic, if_true]; rw [contextStore_run]
  · simp only [hic]; rfl

/-! ## what an entry does to the interrupt registers -/

theorem intPart_entryRegs (i : Fin 3) (r : Regs) :
    intPart (entryRegs i r) =
      { intPart r with ip := vset r.ip i 0, ie := 0, sp := r.sp - 2, pc := lineVector i } := by
  unfold entryRegs
  by_cases h : (r.ic.toArray.getD i 0 != 0) = true
  · simp only [h, if_true, intPart_contextStore]; rfl
  · simp only [h]; rfl

theorem intPart_vecEntryRegs (addr : U32) (ctx : Bool) (r : Regs) :
    intPart (vecEntryRegs addr ctx r) =
      { intPart r with ipv := 0, ie := 0, sp := r.sp - 2, pc := addr } := by
  unfold vecEntryRegs
  cases ctx
  · rfl
  · simp only [if_true, intPart_contextStore]; rfl

/-- The registers the interrupt block reads and writes, after each kind of entry. -/
theorem entry_effect (c c' : Core) (h : interruptCheck.run c = .ok ((), c')) :
    match entryDecision c.regs with
    | .none => c' = c
    | .line i =>
        intPart c'.regs = { intPart c.regs with ip := vset c.regs.ip i 0, ie := 0, sp := c.regs.sp - 2,
                                                 pc := lineVector i } ∧ c'.idle = false
    | .vectored =>
        ∃ addr, intPart c'.regs = { intPart c.regs with ipv := 0, ie := 0, sp := c.regs.sp - 2, pc := addr } ∧
          c'.idle = false := by
  rw [interruptCheck_eq_decision] at h
  cases hd : entryDecision c.regs with
  | none =>
    rw [hd] at h
    injection h with h; injection h with _ h; exact h.symm
  | line i =>
    rw [hd] at h
    obtain ⟨c1, c2, -, -, rfl⟩ := pushedThen_ok ((enterLine_run i c).symm.trans h)
    exact ⟨intPart_entryRegs i c.regs, rfl⟩
  | vectored =>
    rw [hd] at h
    obtain ⟨c1, c2, -, -, rfl⟩ := pushedThen_ok ((enterVectored_run c).symm.trans h)
    exact ⟨c2.vaddr, intPart_vecEntryRegs _ _ c.regs, rfl⟩

/-! ## indexing bridges -/

theorem lineReady_iff (r : Regs) (i : Nat) (h : i < 3) : lineReady r i = true ↔ r.im[i] ≠ 0 ∧ r.ip[i] ≠ 0 := by
  unfold lineReady
  rw [toArray_getD _ _ h, toArray_getD _ _ h]
  simp

theorem lineReady_false_iff (r : Regs) (i : Nat) (h : i < 3) : lineReady r i = false ↔ r.im[i] = 0 ∨ r.ip[i] = 0 := by
  rw [← Bool.not_eq_true, lineReady_iff r i h, Decidable.not_and_iff_not_or_not, Decidable.not_not, Decidable.not_not]

theorem vecReady_iff (r : Regs) : vecReady r = true ↔ r.imv ≠ 0 ∧ r.ipv ≠ 0 := by
  unfold vecReady; simp

/-! ## the named consequences -/

/-- **Fixed priority int0 > int1 > int2 > vectored.**  With interrupts enabled and no `rep`
running, if line `i` is unmasked and requested and no lower-numbered line is, then line `i` is
the one entered — whatever the state of the higher-numbered lines and of the vectored interrupt —
and the requests of all the others (`ip[j]`, `j ≠ i`, and `ipv`) are left exactly as they were,
i.e. they stay pending for a later boundary. -/
theorem priority (c : Core) (i : Fin 3) (hie : c.regs.ie ≠ 0) (hrep : c.regs.rep = false)
    (hi : c.regs.im[i] ≠ 0 ∧ c.regs.ip[i] ≠ 0)
    (hlow : ∀ j : Fin 3, j < i → c.regs.im[j] = 0 ∨ c.regs.ip[j] = 0) :
    entryDecision c.regs = .line i ∧ interruptCheck.run c = (enterLine i).run c ∧
    ∀ c', interruptCheck.run c = .ok ((), c') →
      c'.regs.pc = lineVector i ∧ c'.regs.ip[i] = 0 ∧
      (∀ j : Fin 3, j ≠ i → c'.regs.ip[j] = c.regs.ip[j]) ∧ c'.regs.ipv = c.regs.ipv := by
  have hd : entryDecision c.regs = .line i :=
    (entryDecision_line c.regs i).2 ⟨hie, hrep, (deliverLine_eq_some c.regs i).2
      ⟨(lineReady_iff c.regs i i.isLt).2 hi, fun j hj => (lineReady_false_iff c.regs j j.isLt).2 (hlow j hj)⟩⟩
  refine ⟨hd, by rw [interruptCheck_eq_decision, hd]; rfl, fun c' h => ?_⟩
  have he := entry_effect c c' h
  rw [hd] at he
  obtain ⟨he, _⟩ := he
  have hip : c'.regs.ip = vset c.regs.ip i 0 := congrArg IntPart.ip he
  refine ⟨congrArg IntPart.pc he, ?_, fun j hj => ?_, congrArg IntPart.ipv he⟩
  · rw [hip]; exact (getElem_vset _ _ _ _ i.isLt i.isLt).trans (if_pos rfl)
  · rw [hip]; exact (getElem_vset _ _ _ _ i.isLt j.isLt).trans (if_neg fun e => hj (Fin.ext e.symm))

/-- The vectored interrupt has the lowest priority: it is entered only when no interrupt line
is unmasked and requested. -/
theorem priority_vectored_last (r : Regs) (h : entryDecision r = .vectored) :
    ∀ j : Fin 3, r.im[j] = 0 ∨ r.ip[j] = 0 := by
  obtain ⟨_, _, hn, _⟩ := (entryDecision_vectored r).1 h
  exact fun j => (lineReady_false_iff r j j.isLt).1 ((deliverLine_eq_none r).1 hn j)

/-- **Masked lines never enter and stay latched.**  If `im[i] = 0`, line `i` is not entered, and
whatever else the interrupt block does (nothing, another line, the vectored interrupt), `ip[i]`
is unchanged: the request stays pending until software unmasks it. -/
theorem masked_never_enters (c : Core) (i : Fin 3) (hm : c.regs.im[i] = 0) :
    entryDecision c.regs ≠ .line i ∧
    ∀ c', interruptCheck.run c = .ok ((), c') → c'.regs.ip[i] = c.regs.ip[i] := by
  have hne : entryDecision c.regs ≠ .line i := by
    intro h
    obtain ⟨_, _, hd⟩ := (entryDecision_line c.regs i).1 h
    exact ((lineReady_iff c.regs i i.isLt).1 ((deliverLine_eq_some c.regs i).1 hd).1).1 hm
  refine ⟨hne, fun c' h => ?_⟩
  have he := entry_effect c c' h
  cases hd : entryDecision c.regs with
  | none => rw [hd] at he; rw [he]
  | line j =>
    rw [hd] at he hne
    have hip : c'.regs.ip = vset c.regs.ip j 0 := congrArg IntPart.ip he.1
    have : j ≠ i := fun e => hne (by rw [e])
    rw [hip]; exact (getElem_vset _ _ _ _ j.isLt i.isLt).trans (if_neg fun e => this (Fin.ext e))
  | vectored =>
    rw [hd] at he
    obtain ⟨_, he, _⟩ := he
    have hip : c'.regs.ip = c.regs.ip := congrArg IntPart.ip he
    rw [hip]

/-- The same for the vectored interrupt: with `imv = 0` it is not entered and `ipv` is unchanged. -/
theorem masked_vectored_never_enters (c : Core) (hm : c.regs.imv = 0) :
    entryDecision c.regs ≠ .vectored ∧
    ∀ c', interruptCheck.run c = .ok ((), c') → c'.regs.ipv = c.regs.ipv := by
  have hne : entryDecision c.regs ≠ .vectored := by
    intro h
    obtain ⟨_, _, _, hv⟩ := (entryDecision_vectored c.regs).1 h
    exact ((vecReady_iff c.regs).1 hv).1 hm
  refine ⟨hne, fun c' h => ?_⟩
  have he := entry_effect c c' h
  cases hd : entryDecision c.regs with
  | none => rw [hd] at he; rw [he]
  | line j => rw [hd] at he; exact congrArg IntPart.ipv he.1
  | vectored => exact absurd hd hne

/-- **Global enable.**  With `ie = 0` the interrupt block changes nothing at all. -/
theorem disabled_never_enters (c : Core) (h : c.regs.ie = 0) : interruptCheck.run c = .ok ((), c) := by
  rw [interruptCheck_spec, if_pos (Or.inl h)]

/-- **Single-instruction repeat.**  While `rep` is set the interrupt block changes nothing. -/
theorem rep_holds_off (c : Core) (h : c.regs.rep = true) : interruptCheck.run c = .ok ((), c) := by
  rw [interruptCheck_spec, if_pos (Or.inr h)]

/-- **Entry clears the global enable**, so the interrupt block of the following instruction
boundaries does nothing (no second entry, for this or any other request) until software sets
`ie` again (`eint`, `reti`, a write to `st0`/`mod3`). -/
theorem entry_clears_enable (c c' : Core) (h : interruptCheck.run c = .ok ((), c'))
    (hent : entryDecision c.regs ≠ .none) :
    c'.regs.ie = 0 ∧ entryDecision c'.regs = .none ∧ interruptCheck.run c' = .ok ((), c') := by
  have he := entry_effect c c' h
  have hie : c'.regs.ie = 0 := by
    cases hd : entryDecision c.regs with
    | none => exact absurd hd hent
    | line j => rw [hd] at he; exact congrArg IntPart.ie he.1
    | vectored => rw [hd] at he; obtain ⟨_, he, _⟩ := he; exact congrArg IntPart.ie he
  refine ⟨hie, ?_, disabled_never_enters c' hie⟩
  unfold entryDecision; rw [if_pos (Or.inl hie)]

/-- **Entry consumes the request**: after entering line `i`, `ip[i] = 0`; after entering the
vectored handler, `ipv = 0`. -/
theorem entry_consumes_request (c c' : Core) (h : interruptCheck.run c = .ok ((), c')) :
    (∀ i, entryDecision c.regs = .line i → c'.regs.ip[i] = 0) ∧
    (entryDecision c.regs = .vectored → c'.regs.ipv = 0) := by
  have he := entry_effect c c' h
  constructor
  · intro i hd
    rw [hd] at he
    have hip : c'.regs.ip = vset c.regs.ip i 0 := congrArg IntPart.ip he.1
    rw [hip]; exact (getElem_vset _ _ _ _ i.isLt i.isLt).trans (if_pos rfl)
  · intro hd
    rw [hd] at he
    obtain ⟨_, he, _⟩ := he
    exact congrArg IntPart.ipv he

/-- **Never spuriously.**  If no request bit is set (`ip[0..2] = 0`, `ipv = 0`) nothing is
entered, whatever the masks and enables. -/
theorem no_spurious (c : Core) (hip : ∀ i : Fin 3, c.regs.ip[i] = 0) (hipv : c.regs.ipv = 0) :
    entryDecision c.regs = .none ∧ interruptCheck.run c = .ok ((), c) := by
  have hd : entryDecision c.regs = .none := by
    cases hd : entryDecision c.regs with
    | none => rfl
    | line i =>
      obtain ⟨_, _, h⟩ := (entryDecision_line c.regs i).1 hd
      exact absurd (hip i) ((lineReady_iff c.regs i i.isLt).1 ((deliverLine_eq_some c.regs i).1 h).1).2
    | vectored =>
      obtain ⟨_, _, _, h⟩ := (entryDecision_vectored c.regs).1 hd
      exact absurd hipv ((vecReady_iff c.regs).1 h).2
  refine ⟨hd, ?_⟩
  rw [interruptCheck_eq_decision, hd]; rfl

/-- **Entered at the first boundary where everything is enabled**: with `ie ≠ 0`, no `rep`, and
line `i` unmasked and requested, *some* entry is made at this boundary (line `i` itself unless a
lower-numbered line is also ready — `priority`). -/
theorem enabled_enters (c : Core) (i : Fin 3) (hie : c.regs.ie ≠ 0) (hrep : c.regs.rep = false)
    (hi : c.regs.im[i] ≠ 0 ∧ c.regs.ip[i] ≠ 0) :
    ∃ j : Fin 3, j ≤ i ∧ entryDecision c.regs = .line j := by
  cases hd : deliverLine c.regs with
  | none =>
    have := (deliverLine_eq_none c.regs).1 hd i
    rw [(lineReady_iff c.regs i i.isLt).2 hi] at this; cases this
  | some j =>
    refine ⟨j, ?_, (entryDecision_line c.regs j).2 ⟨hie, hrep, hd⟩⟩
    have hmin := ((deliverLine_eq_some c.regs j).1 hd).2
    apply Decidable.byContradiction
    intro hlt
    have := hmin i (by omega)
    rw [(lineReady_iff c.regs i i.isLt).2 hi] at this; cases this

/-! ## the return address on the stack -/

/-- **The address pushed is the `pc` before entry.**  Entering line `i` performs exactly two
`mem.DataWrite` calls, in this order:

* `DataWrite(sp - 1, w₁)`, `DataWrite(sp - 2, w₂)` where `(w₁, w₂) = pcWords` of the registers
  *before* entry — `(pc >> 16, pc & 0xFFFF)` if `cpc = 1`, `(pc & 0xFFFF, pc >> 16)` otherwise
  (`pcWords_cpc`), so the word on top of the stack (`sp - 2`) is the low half when `cpc = 1` and the
  high half otherwise, which is the order `PopPC` reads them back in; the two halves determine
  `pc` (`pc_of_halves`);
* after that `sp` has decreased by 2, `pc` is the handler address, `idle` is cleared, and the
  resulting machine is the one after the second write with the register file `entryRegs i`.

Because `interruptCheck` is the last statement of the loop body (`cycle_entry_after_exec`), the
`pc` before entry is the `pc` the instruction handler left, i.e. the address of the next
instruction that has not been executed. -/
theorem entry_pushes_next_pc (i : Fin 3) (c c' : Core) (h : (enterLine i).run c = .ok ((), c')) :
    ∃ c1 c2,
      c.busWrite (c.regs.sp - 1) (pcWords c.regs).1 = .ok c1 ∧
      c1.busWrite (c.regs.sp - 2) (pcWords c.regs).2 = .ok c2 ∧
      c' = { c2 with regs := entryRegs i c.regs, idle := false } ∧
      c'.regs.sp = c.regs.sp - 2 ∧ c'.regs.pc = lineVector i := by
  obtain ⟨c1, c2, h1, h2, rfl⟩ := pushedThen_ok ((enterLine_run i c).symm.trans h)
  have hi := intPart_entryRegs i c.regs
  exact ⟨c1, c2, h1, h2, rfl, congrArg IntPart.sp hi, congrArg IntPart.pc hi⟩

/-- The same for the vectored entry; the handler address and the context-switch flag are the
latched `vinterrupt_address` / `vinterrupt_context_switch` *after* the two stack writes. -/
theorem vectored_entry_pushes_next_pc (c c' : Core) (h : enterVectored.run c = .ok ((), c')) :
    ∃ c1 c2,
      c.busWrite (c.regs.sp - 1) (pcWords c.regs).1 = .ok c1 ∧
      c1.busWrite (c.regs.sp - 2) (pcWords c.regs).2 = .ok c2 ∧
      c' = { c2 with regs := vecEntryRegs c2.vaddr c2.vctx c.regs, idle := false } ∧
      c'.regs.sp = c.regs.sp - 2 ∧ c'.regs.pc = c2.vaddr := by
  obtain ⟨c1, c2, h1, h2, rfl⟩ := pushedThen_ok ((enterVectored_run c).symm.trans h)
  have hi := intPart_vecEntryRegs c2.vaddr c2.vctx c.regs
  exact ⟨c1, c2, h1, h2, rfl, congrArg IntPart.sp hi, congrArg IntPart.pc hi⟩

/-- **Stack in ordinary memory.**  If `sp - 1` and `sp - 2` are ordinary data memory (not in the
MMIO window, pages in range), entering line `i` succeeds, runs no callback, and the machine
afterwards is: shared memory with `w₁` at (the conversion of) `sp - 1` and `w₂` at `sp - 2`, the
two accesses logged, register file `entryRegs i`, `idle` cleared, everything else (latches,
peripherals, events) unchanged. -/
theorem entry_pushes_next_pc_ordinary (i : Fin 3) (c : Core) (a1 a2 : U32)
    (h1 : OrdinaryAt c.bus (c.regs.sp - 1) a1) (h2 : OrdinaryAt c.bus (c.regs.sp - 2) a2) :
    (enterLine i).run c = .ok ((),
      { c with
        regs := entryRegs i c.regs
        idle := false
        bus := { c.bus with mem := (c.bus.mem.write (Mem.byteAddr a1 / 2) (pcWords c.regs).1).write
                                      (Mem.byteAddr a2 / 2) (pcWords c.regs).2 }
        log := ⟨Mem.byteAddr a2, true, (pcWords c.regs).2⟩ ::
               ⟨Mem.byteAddr a1, true, (pcWords c.regs).1⟩ :: c.log }) :=
  (enterLine_run i c).trans (pushedThen_ordinary c _ a1 a2 h1 h2)

theorem vectored_entry_pushes_next_pc_ordinary (c : Core) (a1 a2 : U32)
    (h1 : OrdinaryAt c.bus (c.regs.sp - 1) a1) (h2 : OrdinaryAt c.bus (c.regs.sp - 2) a2) :
    enterVectored.run c = .ok ((),
      { c with
        regs := vecEntryRegs c.vaddr c.vctx c.regs
        idle := false
        bus := { c.bus with mem := (c.bus.mem.write (Mem.byteAddr a1 / 2) (pcWords c.regs).1).write
                                      (Mem.byteAddr a2 / 2) (pcWords c.regs).2 }
        log := ⟨Mem.byteAddr a2, true, (pcWords c.regs).2⟩ ::
               ⟨Mem.byteAddr a1, true, (pcWords c.regs).1⟩ :: c.log }) :=
  (enterVectored_run c).trans (pushedThen_ordinary c _ a1 a2 h1 h2)

end Teakra
