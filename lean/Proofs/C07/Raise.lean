import Proofs.C07Icu
import Proofs.Lemmas.Emit
/-!
# C07 (composition) — from `icu.TriggerSingle(irq)` to the core latches

`Periph.raise p irq` is the model of one `icu.TriggerSingle(irq)` made by a peripheral (timer
0xA/0x9, APBP 0xE, BTDMP 0xB, DMA 0xF — `TeakraModel/Periph.lean`) or by software through the
MMIO trigger register; its callbacks reach the core through `Core.emit`
(`Processor::SignalInterrupt` / `SignalVectoredInterrupt`).
-/
namespace Teakra
open Teakra Icu

private theorem singleBit_self : ∀ q : Fin 16, (singleBit q).getLsbD q = true := by decide

theorem raise_eq (p : Periph) (q : Fin 16) :
    p.raise q =
      ({ p with icu := { p.icu with request := p.icu.request ||| singleBit q } },
       (p.icu.irqEvents q).map PEvent.ofIcu) := by
  unfold Periph.raise
  rw [trigger_singleBit]

theorem raise_request (p : Periph) (q : Fin 16) : (p.raise q).1.icu.request.getLsbD q = true := by
  rw [raise_eq]
  exact BitVec.getLsbD_or.trans (by rw [singleBit_self q, Bool.or_true])

theorem irqEvents_ofIcu (s : Icu) (q : Fin 16) :
    (s.irqEvents q).map PEvent.ofIcu =
      (((List.finRange 3).filter fun l : Fin 3 => s.enabled[l].getLsbD q).map Fin.val).map PEvent.irq ++
      (if s.vectoredEnabled.getLsbD q then
        [PEvent.virq (s.vectorHigh[q] ++ s.vectorLow[q]) (s.vectorContextSwitch[q] != 0)] else []) := by
  unfold irqEvents
  rw [List.map_append, List.map_map, List.map_map, getVector_eq]
  split <;> rfl

theorem irqEvents_contains_irq (s : Icu) (q : Fin 16) (l : Fin 3) :
    ((s.irqEvents q).map PEvent.ofIcu).contains (.irq l) = s.enabled[l].getLsbD q := by
  rw [Bool.eq_iff_iff, List.contains_iff_mem, List.mem_map, ← interrupt_mem_irqEvents s q l]
  constructor
  · rintro ⟨e, he, h⟩
    cases e with
    | interrupt line => cases Fin.ext (PEvent.irq.inj h : line.val = l.val); exact he
    | vectored a x => cases h
  · exact fun h => ⟨_, h, rfl⟩

/-- **From a raised IRQ to the core latches.**  For a request line `irq < 16`, one
`icu.TriggerSingle(irq)` (`Periph.raise`) followed by the delivery of its callbacks to the core
(`Core.emit`):

1. sets request bit `irq` in the controller and changes nothing else in the peripherals;
2. sets `interrupt_pending[l]` exactly for the lines `l < 3` whose enable mask contains `irq`
   (latches of the other lines keep their previous value);
3. sets the vectored latch iff the vectored enable contains `irq`, and then
   `vinterrupt_address = vector_high[irq] : vector_low[irq]`,
   `vinterrupt_context_switch = (vector_context_switch[irq] != 0)`; otherwise the vectored
   latch, address and flag keep their values;
4. touches neither the registers (in particular not `ip`/`ipv`: those only change in the latch
   phase, `latched_spec`), nor the bus, the access log or `idle`. -/
theorem raise_reaches_core (p : Periph) (irq : Nat) (hirq : irq < 16) (c : Core) :
    (p.raise irq).1 = { p with icu := { p.icu with request := p.icu.request ||| singleBit irq } } ∧
    (p.raise irq).1.icu.request.getLsbD irq = true ∧
    (∀ l : Fin 3, (c.emit (p.raise irq).2).ipend[l] =
        (c.ipend[l] || p.icu.enabled[l].getLsbD irq)) ∧
    (c.emit (p.raise irq).2).vpend = (c.vpend || p.icu.vectoredEnabled.getLsbD irq) ∧
    (p.icu.vectoredEnabled.getLsbD irq = true →
        (c.emit (p.raise irq).2).vaddr =
          p.icu.vectorHigh[(⟨irq, hirq⟩ : Fin 16)] ++ p.icu.vectorLow[(⟨irq, hirq⟩ : Fin 16)] ∧
        (c.emit (p.raise irq).2).vctx = (p.icu.vectorContextSwitch[(⟨irq, hirq⟩ : Fin 16)] != 0)) ∧
    (p.icu.vectoredEnabled.getLsbD irq = false →
        (c.emit (p.raise irq).2).vaddr = c.vaddr ∧ (c.emit (p.raise irq).2).vctx = c.vctx) ∧
    (c.emit (p.raise irq).2).regs = c.regs ∧ (c.emit (p.raise irq).2).bus = c.bus ∧
    (c.emit (p.raise irq).2).log = c.log ∧ (c.emit (p.raise irq).2).idle = c.idle := by
  have hr := raise_eq p ⟨irq, hirq⟩
  simp only [] at hr
  refine ⟨congrArg Prod.fst hr, raise_request p ⟨irq, hirq⟩, ?_⟩
  rw [hr]
  -- the vectored latch: the signals of the lines leave it alone, the vectored callback comes last
  have hv := irqEvents_ofIcu p.icu ⟨irq, hirq⟩ ▸ c.emit_irqs_virq
    (((List.finRange 3).filter fun l : Fin 3 => p.icu.enabled[l].getLsbD irq).map Fin.val)
    (p.icu.vectoredEnabled.getLsbD irq)
    (p.icu.vectorHigh[(⟨irq, hirq⟩ : Fin 16)] ++ p.icu.vectorLow[(⟨irq, hirq⟩ : Fin 16)])
    (p.icu.vectorContextSwitch[(⟨irq, hirq⟩ : Fin 16)] != 0)
  refine ⟨fun l => ?_, hv.1, fun h => ?_, fun h => ?_, ?_⟩
  · exact (Core.emit_ipend c _ l l.isLt).trans (congrArg (_ || ·) (irqEvents_contains_irq p.icu ⟨irq, hirq⟩ l))
  · rw [hv.2.1, hv.2.2, h]; exact ⟨rfl, rfl⟩
  · rw [hv.2.1, hv.2.2, h]; exact ⟨rfl, rfl⟩
  · rw [Core.emit_eq]; exact ⟨rfl, rfl, rfl, rfl⟩

/-- **Unrouted requests never reach the core.**  If no interrupt line and not the vectored
interrupt has `irq` enabled, raising it makes no callback and leaves the core exactly as it was —
no latch is set, so (`latched_spec`, `no_spurious`) no `ip` bit and no entry can result — while
the request bit is still recorded in the controller. -/
theorem unrouted_never_latches (p : Periph) (irq : Nat) (hirq : irq < 16) (c : Core)
    (hl : ∀ l : Fin 3, p.icu.enabled[l].getLsbD irq = false)
    (hv : p.icu.vectoredEnabled.getLsbD irq = false) :
    (p.raise irq).2 = [] ∧ c.emit (p.raise irq).2 = c ∧
    (p.raise irq).1.icu.request.getLsbD irq = true := by
  have hr := raise_eq p ⟨irq, hirq⟩
  simp only [] at hr
  have he : p.icu.irqEvents ⟨irq, hirq⟩ = [] :=
    ((unrouted_never p.icu).1 ⟨irq, hirq⟩ hl hv).1
  have h2 : (p.raise irq).2 = [] := by rw [hr, he]; rfl
  refine ⟨h2, by rw [h2]; rfl, raise_request p ⟨irq, hirq⟩⟩

/-- **The request stays pending until acknowledged** (composition with `Icu.pending_sticky` and
`Icu.ack_exact`): after a raise, bit `irq` of the controller's request register survives every
sequence of controller operations that contains no acknowledge naming `irq` — including further
triggers, routing changes and acknowledges of other bits — and an acknowledge clears exactly the
bits it names. -/
theorem raised_stays_pending (p : Periph) (irq : Nat) (hirq : irq < 16) :
    (∀ ops : List Icu.Op, (∀ op ∈ ops, op.acks irq = false) →
      (Icu.run ops (p.raise irq).1.icu).request.getLsbD irq = true) ∧
    (∀ b : U16, ((p.raise irq).1.icu.acknowledge b).request = (p.raise irq).1.icu.request &&& ~~~b) ∧
    (∀ b : U16, ((p.raise irq).1.icu.acknowledge b).getRequest.getLsbD irq = !b.getLsbD irq) := by
  have hset : (p.raise irq).1.icu.request.getLsbD irq = true :=
    raise_request p ⟨irq, hirq⟩
  refine ⟨fun ops h => (pending_sticky irq).2.1 ops _ hset h, fun b => (ack_exact _ b).1, fun b => ?_⟩
  rw [(ack_exact _ b).2.2 irq hirq]
  show ((p.raise irq).1.icu.request.getLsbD irq && !b.getLsbD irq) = _
  rw [hset, Bool.true_and]
end Teakra
