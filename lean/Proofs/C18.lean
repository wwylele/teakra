import TeakraModel.Sys
import Proofs.C11
/-!
# C18 — where an out-of-bounds access can arise (partial)

Every access the bus model makes to the DSP memory goes through `Mem.readWord` / `Mem.writeWord`,
which perform the access only inside the 0x80000-byte array; an attempt outside it ends in the assertion of
`SharedMemory::ReadWord/WriteWord` (`.assert`).  `.oob` is the explicit outcome where the C++ indexes without a check
and the model guards: the DMA channel window, the MMIO cell index, and a DSP-side DMA address outside the memory
(`dspIndex`; on the real code the `TEAKRA_VERIF` observer reports such an access before it is made).
The theorems below say exactly where these outcomes can and cannot arise.  That the C++ has no other
path to memory, and no undefined behaviour of other kinds, is not provable here (level: partial) —
it is explored on the real code with the observer hook and sanitizers by `checks/c18.py`.
-/
namespace Teakra.C18
open Teakra.Bus

private theorem byteAddr_of_inRange (wa : U32) (h : Mem.inRange wa = true) : Mem.byteAddr wa + 1 < 0x80000 := by
  have hlt := (mem_bounds wa).1.mp h
  rw [Mem.byteAddr, toNat_mul2 wa hlt]; omega

/-- A completed word read touched two bytes inside the array. -/
theorem readWord_inbounds (m : Mem) (wa : U32) (v : U16) (a : Access) (h : m.readWord wa = .ok (v, a)) :
    a.byteAddr + 1 < 0x80000 ∧ a.byteAddr = Mem.byteAddr wa := by
  unfold Mem.readWord at h
  split at h
  · rename_i hr
    cases h
    exact ⟨byteAddr_of_inRange wa hr, rfl⟩
  · cases h

/-- A completed word write touched two bytes inside the array. -/
theorem writeWord_inbounds (m m' : Mem) (wa : U32) (v : U16) (a : Access) (h : m.writeWord wa v = .ok (m', a)) :
    a.byteAddr + 1 < 0x80000 ∧ a.byteAddr = Mem.byteAddr wa := by
  unfold Mem.writeWord at h
  split at h
  · rename_i hr
    cases h
    exact ⟨byteAddr_of_inRange wa hr, rfl⟩
  · cases h

/-- **No access outside the array, on any path.**  `SharedMemory::ReadWord/WriteWord` — the only functions
of the model that touch the array — either perform an access inside it or end in the deliberate assertion;
`oob` is not an outcome of the memory. -/
theorem readWord_never_oob (m : Mem) (wa : U32) : m.readWord wa ≠ .error .oob := by
  unfold Mem.readWord; split <;> simp

theorem writeWord_never_oob (m : Mem) (wa : U32) (v : U16) : m.writeWord wa v ≠ .error .oob := by
  unfold Mem.writeWord; split <;> simp

/-- Every access a completed `ProgramRead` reports is inside the array. -/
theorem programRead_inbounds (b : Bus) (p : U32) (v : U16) (accs : List Access)
    (h : b.programRead p = .ok (v, accs)) : ∀ a ∈ accs, a.byteAddr + 1 < 0x80000 := by
  unfold programRead at h
  cases hr : b.mem.readWord p with
  | error e => rw [hr] at h; cases h
  | ok r =>
    obtain ⟨v', a'⟩ := r
    rw [hr] at h
    cases h
    intro a ha
    rw [List.mem_singleton.1 ha]
    exact (readWord_inbounds _ _ _ _ hr).1

/-- `ProgramRead` ends in the assertion exactly when the word address is outside the 0x40000 words
(named `…_oob_iff` for the outcome it replaces: on the pinned upstream tree this was the out-of-bounds read). -/
theorem programRead_oob_iff (b : Bus) (p : U32) :
    (b.programRead p = .error .assert ↔ Mem.inRange p = false) ∧
    (b.programRead p = .error .assert ↔ 0x40000 ≤ p.toNat) := by
  have key : b.programRead p = .error .assert ↔ Mem.inRange p = false := by
    unfold programRead Mem.readWord
    cases hr : Mem.inRange p <;> simp
  refine ⟨key, ?_⟩
  rw [key]
  unfold Mem.inRange
  simp

theorem programWrite_oob_iff (b : Bus) (p : U32) (v : U16) :
    b.programWrite p v = .error .assert ↔ 0x40000 ≤ p.toNat := by
  unfold programWrite Mem.writeWord Mem.inRange
  by_cases h : p.toNat < 0x40000
  · simp [h]
  · simp [h]; omega

theorem data_access_ok (b : Bus) (a v : U16) (bypass : Bool) (w : Nat) (h : Port.cell b (.data a bypass) = some w) :
    (∃ r, b.dataRead a bypass = .ok r) ∧ (∃ r, b.dataWrite a v bypass = .ok r) :=
  let ⟨_, _, hr⟩ := dataRead_cell b a bypass w h
  let ⟨_, _, hw⟩ := dataWrite_cell b a v bypass w h
  ⟨⟨_, hr⟩, ⟨_, hw⟩⟩

/-- **A data access never leaves the array** in the default paging mode: with bank `z < 2` a load or
store outside the MMIO window (or with bypass) completes. (`z ≥ 2` is an assertion abort, not an
access.) -/
theorem data_access_never_oob (b : Bus) (a v : U16) (bypass : Bool) (hp : b.miu.pageMode = 0) (hz : b.miu.zPage < 2)
    (hw : (b.miu.inMmioWindow a && !bypass) = false) :
    (∃ r, b.dataRead a bypass = .ok r) ∧ (∃ r, b.dataWrite a v bypass = .ok r) :=
  data_access_ok b a v bypass _ (data_cell b a bypass hp hz hw).1

/-- **Instruction fetch.**  The fetch address `prpage << 18 | pc` is inside the array exactly when
`prpage` (4 bits) is 0 and `pc < 0x40000`. -/
theorem fetch_inrange_iff (r : Regs) (hpg : r.prpage.toNat < 16) :
    Mem.inRange (Sys.fetchAddress r) = true ↔ (r.prpage = 0 ∧ r.pc.toNat < 0x40000) := by
  unfold Mem.inRange Sys.fetchAddress
  have h3 : ((r.prpage.setWidth 32 : U32) <<< 18).toNat = r.prpage.toNat * 2 ^ 18 := by
    simp [BitVec.toNat_shiftLeft, Nat.shiftLeft_eq]
    omega
  have hor := BitVec.toNat_or (x := r.pc) (y := (r.prpage.setWidth 32 : U32) <<< 18)
  constructor
  · intro h
    have h' : (r.pc ||| (r.prpage.setWidth 32 : U32) <<< 18).toNat < 0x40000 := by simpa using h
    rw [hor] at h'
    have h1 : r.pc.toNat ≤ r.pc.toNat ||| ((r.prpage.setWidth 32 : U32) <<< 18).toNat := Nat.left_le_or
    have h2 : ((r.prpage.setWidth 32 : U32) <<< 18).toNat ≤ r.pc.toNat ||| ((r.prpage.setWidth 32 : U32) <<< 18).toNat := Nat.right_le_or
    refine ⟨?_, by omega⟩
    have : r.prpage.toNat = 0 := by omega
    exact BitVec.eq_of_toNat_eq (by simpa using this)
  · rintro ⟨h0, hpc'⟩
    rw [h0]
    simpa using hpc'

/-- The two ways a fetch address can be outside the program space: both end in the assertion of
`SharedMemory::ReadWord` (on the pinned upstream tree they read beyond the array). -/
theorem fetch_oob_witness_prpage :
    Mem.inRange (Sys.fetchAddress { pc := 0x100, prpage := 1 }) = false := by decide
theorem fetch_oob_witness_pc :
    Mem.inRange (Sys.fetchAddress { pc := 0x40000 }) = false := by decide

/-- `Dma::ActivateChannel` keeps the channel index inside `channels[8]`. -/
theorem activateChannel_lt (d : Dma) (v : U16) : (d.activateChannel v).activeChannel.toNat < 8 := by
  unfold Dma.activateChannel
  simp only
  have : (v &&& 7).toNat ≤ 7 := by
    rw [BitVec.toNat_and]
    exact Nat.and_le_right
  omega

/-- Hence a channel-window access after any write of CHANNEL indexes inside the array: the model's
range guard does not fire. -/
theorem window_index_inbounds (d : Dma) (v : U16) (f : DmaChannel → U16) :
    ∃ x, (d.activateChannel v).getActive f = .ok x := by
  unfold Dma.getActive
  simp [activateChannel_lt d v]

/-- The pinned upstream code stored the written value unmasked: CHANNEL := 8 made every window access
index `channels[8]`. -/
theorem upstream_window_index_witness :
    ({ ({} : Dma) with activeChannel := 8 }).getActive (fun c => c.addrSrcLow) = .error .oob := by
  decide

/-- **DMA, DSP side.**  After the repair every DSP-space address of a transfer is reduced to the 17 bits of
the two data banks, so the word index is inside the array for every 32-bit channel address. -/
theorem dma_dsp_index_inbounds (cur : U32) : ∃ i, dspIndex cur = some i ∧ i.toNat < 0x40000 := by
  unfold dspIndex
  generalize hx : cur &&& 0x1FFFF = x
  have hm : x.toNat ≤ 0x1FFFF := by
    rw [← hx, BitVec.toNat_and]
    exact Nat.and_le_right
  have hb : ((0x20000 + x) * 2 : U32).toNat = (0x20000 + x.toNat) * 2 := by
    simp [BitVec.toNat_mul, BitVec.toNat_add]
    omega
  refine ⟨((0x20000 + x) * 2 : U32) >>> 1, ?_, ?_⟩
  · simp only []
    rw [if_pos (by rw [hb]; omega)]
  · rw [BitVec.toNat_ushiftRight, hb, Nat.shiftRight_eq_div_pow]
    omega

/-- The pinned upstream code used the address unmasked: channel addresses `0x00020000` and `0x0FFF0000` leave
the array. -/
theorem upstream_dma_dsp_index_witness : dspIndexUpstream 0x20000 = none ∧ dspIndexUpstream 0x0FFF0000 = none := by
  decide

/-- MMIO cell index: both callers mask the address to 11 bits, so `cells[off]` is in range. -/
theorem mmio_offset_inbounds (addr : U16) : (addr &&& 0x7FF).toNat < mmioSize := by
  rw [and_7ff_toNat]; exact Nat.mod_lt _ (by decide)

end Teakra.C18
