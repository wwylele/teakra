import Proofs.Lemmas.BitSlot
/-!
# C14 — mailbox data channels and semaphores of the APBP block

Property theorems about `Teakra.Apbp` (model of `src/apbp.cpp`) and about the MMIO wiring of the
two instances (`statusD6`, `statusD8` of `src/mmio.cpp`, host API of `src/teakra.cpp`); the tie
to the C++ is the `apbp` / `apbpsys` correspondence slices.

`fixed = false` is the upstream `Apbp::MaskSemaphore` (stores the mask only); `fixed =
true` the repaired one (recomputes `semaphore_master_signal`, calls the handler on a rise).
The clause "the signal flag always equals ((semaphore AND NOT mask) is non-zero)" is **false**
for the upstream code (`signal_eq_upstream_counterexample`) and proved for the repaired code
(`signal_eq`); `signal_eq_partial` is what survives for the upstream code.
-/
namespace Teakra.Apbp

/-! ## abstract specification: three mailboxes and one semaphore word -/

/-- A mailbox: the last written value and the data-ready flag. -/
@[ext] structure Mailbox where
  value : U16
  ready : Bool

/-- The semaphore register pair; the signal is *derived*, not stored. -/
@[ext] structure Sem where
  bits : U16
  mask : U16

def Sem.signal (s : Sem) : Bool := s.bits &&& ~~~s.mask != 0

@[ext] structure Spec where
  box        : Fin 3 → Mailbox
  /-- interrupt-disable word per channel (the interrupt is disabled iff it is non-zero) -/
  irqDisable : Fin 3 → U16
  sem        : Sem

def upd {α : Type} (f : Fin 3 → α) (i : Fin 3) (x : α) : Fin 3 → α := fun j => if j = i then x else f j

/-- Abstraction map: forget `semaphore_master_signal` (the specification derives it). -/
def abs (a : Apbp) : Spec where
  box i := ⟨a.dataChannels[i].data, a.dataChannels[i].ready⟩
  irqDisable i := a.dataChannels[i].disableInterrupt
  sem := ⟨a.semaphore, a.semaphoreMask⟩

/-- The stored flag agrees with the derived signal. -/
def SignalOk (a : Apbp) : Prop := a.semaphoreMasterSignal = signalOf a.semaphore a.semaphoreMask
instance : DecidablePred SignalOk := fun _ => inferInstanceAs (Decidable (_ = _))

/-- Every public operation of the block, from either side. -/
inductive Op where
  | reset
  | send (ch : Fin 3) (v : U16) | recv (ch : Fin 3) | peek (ch : Fin 3) | isReady (ch : Fin 3)
  | setDisable (ch : Fin 3) (v : U16) | getDisable (ch : Fin 3)
  | semSet (bits : U16) | semClear (bits : U16) | semMask (bits : U16)
  | semGet | maskGet | signaled
  deriving DecidableEq, Repr

/-- Observable result of one operation: returned word (0 for `void`, 0/1 for `bool`) and the
handler calls it made. -/
abbrev Out := U16 × List ApbpEvent

def ofBool (b : Bool) : U16 := if b then 1 else 0

/-- One operation on the model of the C++ object. -/
def step (fixed : Bool) (a : Apbp) : Op → Apbp × Out
  | .reset => (a.reset, 0, [])
  | .send ch v => ((a.sendData ch v).1, 0, (a.sendData ch v).2)
  | .recv ch => ((a.recvData ch).1, (a.recvData ch).2, [])
  | .peek ch => (a, a.peekData ch, [])
  | .isReady ch => (a, ofBool (a.isDataReady ch), [])
  | .setDisable ch v => (a.setDisableInterrupt ch v, 0, [])
  | .getDisable ch => (a, a.getDisableInterrupt ch, [])
  | .semSet b => ((a.setSemaphore b).1, 0, (a.setSemaphore b).2)
  | .semClear b => (a.clearSemaphore b, 0, [])
  | .semMask m => ((a.maskSemaphoreGen fixed m).1, 0, (a.maskSemaphoreGen fixed m).2)
  | .semGet => (a, a.getSemaphore, [])
  | .maskGet => (a, a.getSemaphoreMask, [])
  | .signaled => (a, ofBool a.isSemaphoreSignaled, [])

/-- A history: final state and the outputs in order. -/
def run (fixed : Bool) : List Op → Apbp → Apbp × List Out
  | [], a => (a, [])
  | op :: ops, a => ((run fixed ops (step fixed a op).1).1, (step fixed a op).2 :: (run fixed ops (step fixed a op).1).2)

/-- The same operation on the specification.  The peer is interrupted by `send` unless the
channel's interrupt is disabled, by `semSet` when the resulting signal is 1, by `semMask` when
the signal rises, never by `semClear`. -/
def Spec.step (s : Spec) : Op → Spec × Out
  | .reset => ({ s with box := fun _ => ⟨0, false⟩, irqDisable := fun _ => 0, sem := ⟨0, 0⟩ }, 0, [])
  | .send ch v => ({ s with box := upd s.box ch ⟨v, true⟩ }, 0,
      if s.irqDisable ch = 0 then [.data ch] else [])
  | .recv ch => ({ s with box := upd s.box ch ⟨(s.box ch).value, false⟩ }, (s.box ch).value, [])
  | .peek ch => (s, (s.box ch).value, [])
  | .isReady ch => (s, ofBool (s.box ch).ready, [])
  | .setDisable ch v => ({ s with irqDisable := upd s.irqDisable ch v }, 0, [])
  | .getDisable ch => (s, s.irqDisable ch, [])
  | .semSet b => ({ s with sem := ⟨s.sem.bits ||| b, s.sem.mask⟩ }, 0,
      if (Sem.mk (s.sem.bits ||| b) s.sem.mask).signal then [.semaphore] else [])
  | .semClear b => ({ s with sem := ⟨s.sem.bits &&& ~~~b, s.sem.mask⟩ }, 0, [])
  | .semMask m => ({ s with sem := ⟨s.sem.bits, m⟩ }, 0,
      if (Sem.mk s.sem.bits m).signal && !s.sem.signal then [.semaphore] else [])
  | .semGet => (s, s.sem.bits, [])
  | .maskGet => (s, s.sem.mask, [])
  | .signaled => (s, ofBool s.sem.signal, [])

def Spec.run : List Op → Spec → Spec × List Out
  | [], s => (s, [])
  | op :: ops, s => ((Spec.run ops (s.step op).1).1, (s.step op).2 :: (Spec.run ops (s.step op).1).2)

private theorem getElem_set (v : Vector DataChannel 3) (i j : Fin 3) (c : DataChannel) :
    (v.set i c)[j] = if j = i then c else v[j] := by
  simp only [Fin.getElem_fin, Vector.getElem_set, Fin.ext_iff, @eq_comm _ j.val]

private theorem abs_setChannel (a : Apbp) (ch : Fin 3) (c : DataChannel) :
    abs { a with dataChannels := a.dataChannels.set ch c } =
      { abs a with box := upd (abs a).box ch ⟨c.data, c.ready⟩,
                   irqDisable := upd (abs a).irqDisable ch c.disableInterrupt } := by
  apply Spec.ext
  · funext j; simp only [abs, upd, getElem_set]; split <;> rfl
  · funext j; simp only [abs, upd, getElem_set]; split <;> rfl
  · rfl

private theorem upd_self {α : Type} (f : Fin 3 → α) (i : Fin 3) : upd f i (f i) = f := by
  funext j; unfold upd; split
  · rename_i h; rw [h]
  · rfl

/-- The signal is monotone in the semaphore word (`s &&& t = s`: every bit of `s` is a bit of `t`). -/
private theorem signalOf_mono {s t : U16} (m : U16) (hst : s &&& t = s) (h : signalOf s m = true) :
    signalOf t m = true := by
  unfold signalOf at *
  simp only [bne_iff_ne, ne_eq] at *
  intro ht; apply h
  rw [← hst, BitVec.and_assoc, ht]
  exact BitVec.and_zero

/-! ## data channels -/

/-- Writing a data channel sets its data-ready flag (and stores the value; nothing else moves:
the other channels, the interrupt-disable words and the semaphore are untouched). -/
theorem send_sets_ready (a : Apbp) (ch : Fin 3) (v : U16) :
    (a.sendData ch v).1.isDataReady ch = true ∧ (a.sendData ch v).1.peekData ch = v ∧
    abs (a.sendData ch v).1 = { abs a with box := upd (abs a).box ch ⟨v, true⟩ } ∧
    (a.sendData ch v).1.semaphoreMasterSignal = a.semaphoreMasterSignal := by
  refine ⟨?_, ?_, ?_, rfl⟩
  · simp [sendData, DataChannel.send, isDataReady, DataChannel.isReady]
  · simp [sendData, DataChannel.send, peekData, DataChannel.peek]
  · simp only [sendData, DataChannel.send, abs_setChannel]; simp [abs, upd_self]

/-- A write raises the peer's interrupt unless that channel's interrupt is disabled: the handler
calls made by a write are exactly `[data ch]` if the disable word is zero and none otherwise
(in particular never the semaphore handler or another channel's). -/
theorem send_irq_iff_enabled (a : Apbp) (ch : Fin 3) (v : U16) :
    (a.sendData ch v).2 = (if a.getDisableInterrupt ch = 0 then [ApbpEvent.data ch] else []) ∧
    (ApbpEvent.data ch ∈ (a.sendData ch v).2 ↔ a.getDisableInterrupt ch = 0) := by
  have h1 : (a.sendData ch v).2 = (if a.getDisableInterrupt ch = 0 then [ApbpEvent.data ch] else []) := by
    simp [sendData, DataChannel.send, getDisableInterrupt, DataChannel.getDisableInterrupt]
    split <;> simp_all
  refine ⟨h1, ?_⟩
  rw [h1]; split <;> simp_all

/-- Operations that overwrite the value stored in channel `ch`. -/
def Op.writes (ch : Fin 3) : Op → Prop
  | .send c _ => c = ch
  | .reset => True
  | _ => False

private theorem step_peek (fixed : Bool) (a : Apbp) (ch : Fin 3) (op : Op) (h : ¬ op.writes ch) :
    (step fixed a op).1.peekData ch = a.peekData ch := by
  unfold peekData DataChannel.peek
  cases op with
  | reset => exact absurd trivial h
  | send c v =>
    have hc : ¬ ch = c := fun h' => h h'.symm
    simp only [step, sendData, getElem_set, if_neg hc]
  | recv c => simp only [step, recvData, getElem_set]; split <;> simp_all [DataChannel.recv]
  | setDisable c v =>
    simp only [step, setDisableInterrupt, getElem_set]; split <;> simp_all [DataChannel.setDisableInterrupt]
  | semMask m => cases fixed <;> rfl
  | _ => rfl

private theorem run_inv (fixed : Bool) {P : Apbp → Prop} {Q : Op → Prop}
    (hstep : ∀ a op, P a → Q op → P (step fixed a op).1) (ops : List Op) :
    ∀ a, P a → (∀ op ∈ ops, Q op) → P (run fixed ops a).1 := by
  induction ops with
  | nil => exact fun _ h _ => h
  | cons op ops ih =>
    exact fun a h hq => ih _ (hstep a op h (hq op List.mem_cons_self)) fun o ho => hq o (List.mem_cons_of_mem _ ho)

/-- Reading a channel returns the most recently written value: after a write of `v` and *any*
history that contains no further write to (or reset of) that channel — reads and peeks of it
included — a read (and a peek) returns `v`.  Holds for the upstream and the repaired code alike. -/
theorem recv_returns_last (fixed : Bool) (a : Apbp) (ch : Fin 3) (v : U16) (ops : List Op)
    (h : ∀ op ∈ ops, ¬ op.writes ch) :
    ((run fixed ops (a.sendData ch v).1).1.recvData ch).2 = v ∧
    (run fixed ops (a.sendData ch v).1).1.peekData ch = v := by
  have := run_inv fixed (P := (·.peekData ch = v))
    (fun a op ha hq => (step_peek fixed a ch op hq).trans ha) ops _ (send_sets_ready a ch v).2.1 h
  exact ⟨this, this⟩

/-- Reading a channel clears its data-ready flag (the stored value, the other channels, the
interrupt-disable words and the semaphore are untouched; no handler runs). -/
theorem recv_clears (a : Apbp) (ch : Fin 3) :
    (a.recvData ch).1.isDataReady ch = false ∧
    abs (a.recvData ch).1 = { abs a with box := upd (abs a).box ch ⟨a.peekData ch, false⟩ } ∧
    (a.recvData ch).1.semaphoreMasterSignal = a.semaphoreMasterSignal := by
  refine ⟨?_, ?_, rfl⟩
  · simp [recvData, DataChannel.recv, isDataReady, DataChannel.isReady]
  · simp only [recvData, DataChannel.recv, abs_setChannel]
    simp [abs, upd_self, peekData, DataChannel.peek]

/-- Peeking returns what a read would return, leaves the whole state (the flag included) as it is
and calls no handler. -/
theorem peek_pure (fixed : Bool) (a : Apbp) (ch : Fin 3) :
    a.peekData ch = (a.recvData ch).2 ∧ step fixed a (.peek ch) = (a, a.peekData ch, []) :=
  ⟨rfl, rfl⟩

/-! ## refinement -/

/-- **Every operation of the repaired code refines the specification.**  From a state whose
stored flag agrees with the derived signal, the operation returns exactly the specification's
output (returned word and handler calls), commutes with the abstraction map, and re-establishes
the agreement. -/
theorem step_refines (a : Apbp) (h : SignalOk a) (op : Op) :
    (abs a).step op = (abs (step true a op).1, (step true a op).2) ∧ SignalOk (step true a op).1 := by
  unfold SignalOk at h
  cases op with
  | reset =>
    refine ⟨?_, by simp [SignalOk, step, reset, signalOf]⟩
    simp only [Spec.step, step, reset, Prod.mk.injEq, and_true]
    apply Spec.ext
    · funext j; simp [abs, DataChannel.reset]
    · funext j; simp [abs, DataChannel.reset]
    · rfl
  | send ch v =>
    exact ⟨Prod.ext (send_sets_ready a ch v).2.2.1.symm (Prod.ext rfl (send_irq_iff_enabled a ch v).1.symm), h⟩
  | recv ch => exact ⟨Prod.ext (recv_clears a ch).2.1.symm rfl, h⟩
  | setDisable ch v =>
    refine ⟨?_, h⟩
    simp only [Spec.step, step, setDisableInterrupt, DataChannel.setDisableInterrupt, abs_setChannel]
    simp [abs, upd_self]
  | semSet b =>
    constructor
    · rfl
    · show (a.semaphoreMasterSignal || signalOf (a.semaphore ||| b) a.semaphoreMask)
        = signalOf (a.semaphore ||| b) a.semaphoreMask
      rw [h]
      exact Bool.or_eq_right_iff_imp.mpr (signalOf_mono _ (by ext i hi; simp +contextual))
  | semClear b => exact ⟨rfl, rfl⟩
  | semMask m =>
    constructor
    · simp only [Spec.step, step, maskSemaphoreGen, if_true, Prod.mk.injEq, true_and]
      refine ⟨rfl, ?_⟩
      rw [h]; rfl
    · rfl
  | signaled =>
    refine ⟨?_, h⟩
    simp only [Spec.step, step, isSemaphoreSignaled, h]; rfl
  -- the other queries return a stored word and change nothing
  | _ => exact ⟨rfl, h⟩

/-- **History-level refinement.**  Over every sequence of send / receive / peek / ready-query /
interrupt-disable / set / acknowledge / mask / reset operations, the repaired code produces
exactly the specification's sequence of outputs and ends in a state that abstracts to the
specification's final state, with the stored flag equal to the derived signal. -/
theorem run_refines (ops : List Op) : ∀ (a : Apbp), SignalOk a →
    (abs a).run ops = (abs (run true ops a).1, (run true ops a).2) ∧ SignalOk (run true ops a).1 := by
  induction ops with
  | nil => intro a h; exact ⟨rfl, h⟩
  | cons op ops ih =>
    intro a h
    have hs := step_refines a h op
    have hr := ih _ hs.2
    refine ⟨?_, hr.2⟩
    simp only [Spec.run, run, hs.1, hr.1]

/-! ## semaphores -/

/-- Semaphore bits accumulate on set (the mask is untouched). -/
theorem sem_accumulates (a : Apbp) (b : U16) :
    (a.setSemaphore b).1.getSemaphore = a.getSemaphore ||| b ∧
    (a.setSemaphore b).1.getSemaphoreMask = a.getSemaphoreMask ∧
    (a.setSemaphore b).1.dataChannels = a.dataChannels := ⟨rfl, rfl, rfl⟩

/-- Semaphore bits clear on acknowledge (exactly the acknowledged bits; the mask is untouched; no
handler runs — `clearSemaphore` has no event component). -/
theorem clear_clears (a : Apbp) (b : U16) :
    (a.clearSemaphore b).getSemaphore = a.getSemaphore &&& ~~~b ∧
    (a.clearSemaphore b).getSemaphoreMask = a.getSemaphoreMask ∧
    (a.clearSemaphore b).dataChannels = a.dataChannels := ⟨rfl, rfl, rfl⟩

/-- The property clause "the signal flag always equals ((semaphore AND NOT mask) is non-zero)":
from every state in which it holds (in particular a fresh or reset object) it holds after every
history. -/
def SignalEq (fixed : Bool) : Prop :=
  ∀ (a : Apbp), SignalOk a → ∀ (ops : List Op), SignalOk (run fixed ops a).1

/-- **The clause holds for the repaired `MaskSemaphore`.** -/
theorem signal_eq : SignalEq true := fun a h ops => (run_refines ops a h).2

/-- **The clause is false for the upstream code**: on a fresh object `SetSemaphore(1);
MaskSemaphore(1)` leaves the flag at 1 although `semaphore & ~mask = 0`. -/
theorem signal_eq_upstream_counterexample :
    SignalOk {} ∧ ¬ SignalOk (run false [.semSet 1, .semMask 1] {}).1 ∧
    (run false [.semSet 1, .semMask 1] {}).1.isSemaphoreSignaled = true ∧
    signalOf (run false [.semSet 1, .semMask 1] {}).1.getSemaphore
             (run false [.semSet 1, .semMask 1] {}).1.getSemaphoreMask = false := by decide

theorem signal_eq_upstream_false : ¬ SignalEq false :=
  fun h => signal_eq_upstream_counterexample.2.1 (h {} signal_eq_upstream_counterexample.1 _)

/-- The opposite direction fails too: `MaskSemaphore(2); SetSemaphore(2); MaskSemaphore(0)` leaves
the flag at 0 with an unmasked pending bit, and no handler call was made by any of the three —
the peer is never told about the semaphore it just unmasked. -/
theorem upstream_unmask_counterexample :
    (run false [.semMask 2, .semSet 2, .semMask 0] {}).1.isSemaphoreSignaled = false ∧
    signalOf (run false [.semMask 2, .semSet 2, .semMask 0] {}).1.getSemaphore
             (run false [.semMask 2, .semSet 2, .semMask 0] {}).1.getSemaphoreMask = true ∧
    (run false [.semMask 2, .semSet 2, .semMask 0] {}).2 = [(0, []), (0, []), (0, [])] := by decide

def Op.isMask : Op → Bool
  | .semMask _ => true
  | _ => false

/-- The two versions differ in `MaskSemaphore` only. -/
theorem step_fixed_irrelevant (fixed : Bool) (a : Apbp) (op : Op) (hm : op.isMask = false) :
    step fixed a op = step true a op := by
  cases op <;> first | rfl | cases hm

/-- What survives for the upstream code: the flag equals the derived signal over every history
without a mask write; moreover an acknowledge re-establishes the equality from *any* state. -/
theorem signal_eq_partial :
    (∀ (a : Apbp), SignalOk a → ∀ (ops : List Op), (∀ op ∈ ops, op.isMask = false) →
      SignalOk (run false ops a).1) ∧
    (∀ (fixed : Bool) (a : Apbp) (b : U16), SignalOk (step fixed a (.semClear b)).1) := by
  constructor
  · exact fun a h ops => run_inv false
      (fun a op ha hq => step_fixed_irrelevant false a op hq ▸ (step_refines a ha op).2) ops a h
  · intro fixed a b; rfl

/-- From a cleared flag, the semaphore handler runs exactly in the operations that raise the flag —
except that `ClearSemaphore`, which recomputes the flag, never calls it. -/
private theorem sem_event_iff (fixed : Bool) (a : Apbp) (op : Op) (h0 : a.semaphoreMasterSignal = false) :
    ApbpEvent.semaphore ∈ (step fixed a op).2.2 ↔
      (step fixed a op).1.semaphoreMasterSignal = true ∧ ∀ b, op ≠ .semClear b := by
  cases op with
  | semSet b => simp only [step, setSemaphore, h0, Bool.false_or]; split <;> simp_all
  | semMask m =>
    cases fixed
    · simp [step, maskSemaphoreGen, h0]
    · simp only [step, maskSemaphoreGen, h0, if_true]; split <;> simp_all
  | send ch v => simp only [step, sendData, h0]; split <;> simp
  | _ => simp [step, reset, recvData, setDisableInterrupt, h0]

/-- The peer is interrupted whenever the flag rises: if an operation takes the flag from 0 to 1
(from a state where flag and signal agree), it called the semaphore handler.  (For the upstream
code this is only as good as its hypothesis: `MaskSemaphore` does not keep flag and signal in
agreement, see `irq_on_rise_upstream_counterexample`.) -/
theorem irq_on_rise (fixed : Bool) (a : Apbp) (h : SignalOk a) (op : Op)
    (h0 : a.isSemaphoreSignaled = false) (h1 : (step fixed a op).1.isSemaphoreSignaled = true) :
    ApbpEvent.semaphore ∈ (step fixed a op).2.2 := by
  refine (sem_event_iff fixed a op h0).mpr ⟨h1, ?_⟩
  cases op with
  | semClear b =>
    -- an acknowledge cannot raise the signal, and the flag was the signal
    have : (a.semaphore &&& ~~~b) &&& a.semaphore = a.semaphore &&& ~~~b := by
      rw [BitVec.and_comm, ← BitVec.and_assoc, BitVec.and_self]
    exact absurd (h0.symm.trans (h.trans (signalOf_mono _ this h1))) Bool.false_ne_true
  | _ => exact nofun

/-- The peer is never interrupted while the flag stays zero: an operation that starts and ends with
the flag at 0 did not call the semaphore handler.  Holds for the upstream and the repaired code,
from any state. -/
theorem no_irq_while_zero (fixed : Bool) (a : Apbp) (op : Op)
    (h0 : a.isSemaphoreSignaled = false) (h1 : (step fixed a op).1.isSemaphoreSignaled = false) :
    ApbpEvent.semaphore ∉ (step fixed a op).2.2 :=
  fun h => absurd (((sem_event_iff fixed a op h0).mp h).1.symm.trans h1) (by decide)

/-- The upstream code can raise the flag without interrupting the peer: after
`MaskSemaphore(2); SetSemaphore(2); MaskSemaphore(0)` (flag 0, pending unmasked bit) a
`ClearSemaphore(0)` takes the flag from 0 to 1 and calls no handler. -/
theorem irq_on_rise_upstream_counterexample :
    (run false [.semMask 2, .semSet 2, .semMask 0] {}).1.isSemaphoreSignaled = false ∧
    (step false (run false [.semMask 2, .semSet 2, .semMask 0] {}).1 (.semClear 0)).1.isSemaphoreSignaled = true ∧
    (step false (run false [.semMask 2, .semSet 2, .semMask 0] {}).1 (.semClear 0)).2.2 = [] := by decide

/-- **History-level statement of the semaphore clauses** (repaired code).  At every point of every
history that starts from a fresh / reset / any flag-consistent object: the flag equals
`(semaphore & ~mask) ≠ 0`, and the next operation calls the semaphore handler if it raises the
flag and does not call it if the flag stays zero. -/
theorem history_semaphore (a : Apbp) (h : SignalOk a) (pre : List Op) (op : Op) :
    let s := (run true pre a).1
    let s' := (step true s op).1
    s.isSemaphoreSignaled = signalOf s.getSemaphore s.getSemaphoreMask ∧
    s'.isSemaphoreSignaled = signalOf s'.getSemaphore s'.getSemaphoreMask ∧
    (s.isSemaphoreSignaled = false → s'.isSemaphoreSignaled = true →
      ApbpEvent.semaphore ∈ (step true s op).2.2) ∧
    (s.isSemaphoreSignaled = false → s'.isSemaphoreSignaled = false →
      ApbpEvent.semaphore ∉ (step true s op).2.2) := by
  have hs := signal_eq a h pre
  exact ⟨hs, (step_refines _ hs op).2, irq_on_rise true _ hs op, no_irq_while_zero true _ op⟩

/-! ## both instances and the status registers -/

/-- A history over the pair `(apbp_from_cpu, apbp_from_dsp)`: each operation addresses one of the
two objects (`true` = `apbp_from_cpu`).  Host and DSP each act on both: the host writes channels
and sets semaphore bits of `apbp_from_cpu` and reads / acknowledges / masks `apbp_from_dsp`, the
DSP does the converse. -/
def runPair (fixed : Bool) : List (Bool × Op) → Apbp × Apbp → (Apbp × Apbp) × List Out
  | [], p => (p, [])
  | (true, op) :: ops, p =>
      ((runPair fixed ops ((step fixed p.1 op).1, p.2)).1,
       (step fixed p.1 op).2 :: (runPair fixed ops ((step fixed p.1 op).1, p.2)).2)
  | (false, op) :: ops, p =>
      ((runPair fixed ops (p.1, (step fixed p.2 op).1)).1,
       (step fixed p.2 op).2 :: (runPair fixed ops (p.1, (step fixed p.2 op).1)).2)

/-- The two instances are independent: a history over the pair is, on each object, the history of
the operations addressed to it — so `run_refines` and `history_semaphore` apply to each side —
and both objects stay flag-consistent. -/
theorem runPair_proj (fixed : Bool) (ops : List (Bool × Op)) : ∀ (p : Apbp × Apbp),
    (runPair fixed ops p).1.1 = (run fixed ((ops.filter (·.1)).map (·.2)) p.1).1 ∧
    (runPair fixed ops p).1.2 = (run fixed ((ops.filter (!·.1)).map (·.2)) p.2).1 := by
  induction ops with
  | nil => intro p; exact ⟨rfl, rfl⟩
  | cons o ops ih =>
    intro p
    obtain ⟨side, op⟩ := o
    cases side
    · exact ih (p.1, (step fixed p.2 op).1)
    · exact ih ((step fixed p.1 op).1, p.2)

theorem runPair_signalOk (ops : List (Bool × Op)) (p : Apbp × Apbp) (h1 : SignalOk p.1)
    (h2 : SignalOk p.2) :
    SignalOk (runPair true ops p).1.1 ∧ SignalOk (runPair true ops p).1.2 := by
  rw [(runPair_proj true ops p).1, (runPair_proj true ops p).2]
  exact ⟨signal_eq _ h1 _, signal_eq _ h2 _⟩

/-- Bit of `0x0D6` that reports "command register `i` (host → DSP) is full". -/
def d6CmdBit (i : Fin 3) : Nat := #v[8, 12, 13][i]

/-- **The DSP-side status registers and the host API report the same data-ready flags.**
For every state of the two objects and every content of the cells' own storage words:
* reply registers (`apbp_from_dsp`): bit `5+i` of `0x0D6` and bit `10+i` of `0x0D8` equal
  `Teakra::RecvDataIsReady(i)`;
* command registers (`apbp_from_cpu`): bits 8 / 12 / 13 of `0x0D6` and bit `13+i` of `0x0D8`
  equal `!Teakra::SendDataIsEmpty(i)`;
* bit 9 of both is `apbp_from_cpu`'s semaphore signal flag;
* every other bit reads back the cell's storage word. -/
theorem status_bits_agree (st6 st8 : U16) (fromCpu fromDsp : Apbp) (i : Fin 3) :
    (statusD6 st6 fromCpu fromDsp).getLsbD (5 + i) = hostRecvDataIsReady fromDsp i ∧
    (statusD8 st8 fromCpu fromDsp).getLsbD (10 + i) = hostRecvDataIsReady fromDsp i ∧
    (statusD6 st6 fromCpu fromDsp).getLsbD (d6CmdBit i) = !hostSendDataIsEmpty fromCpu i ∧
    (statusD8 st8 fromCpu fromDsp).getLsbD (13 + i) = !hostSendDataIsEmpty fromCpu i ∧
    (statusD6 st6 fromCpu fromDsp).getLsbD 9 = fromCpu.isSemaphoreSignaled ∧
    (statusD8 st8 fromCpu fromDsp).getLsbD 9 = fromCpu.isSemaphoreSignaled ∧
    (∀ j, j ∉ [5, 6, 7, 8, 9, 12, 13] →
      (statusD6 st6 fromCpu fromDsp).getLsbD j = st6.getLsbD j) ∧
    (∀ j, j ∉ [9, 10, 11, 12, 13, 14, 15] →
      (statusD8 st8 fromCpu fromDsp).getLsbD j = st8.getLsbD j) := by
  have hi : i = 0 ∨ i = 1 ∨ i = 2 := by omega
  refine ⟨?_, ?_, ?_, ?_, ?_, ?_, ?_, ?_⟩
  · rcases hi with rfl | rfl | rfl <;>
      simp [statusD6, bitSlot_getElem, hostRecvDataIsReady]
  · rcases hi with rfl | rfl | rfl <;>
      simp [statusD8, bitSlot_getElem, hostRecvDataIsReady]
  · rcases hi with rfl | rfl | rfl <;>
      simp [statusD6, bitSlot_getElem, hostSendDataIsEmpty, d6CmdBit]
  · rcases hi with rfl | rfl | rfl <;>
      simp [statusD8, bitSlot_getElem, hostSendDataIsEmpty]
  · simp [statusD6, bitSlot_getElem]
  · simp [statusD8, bitSlot_getElem]
  · intro j hj
    simp only [List.mem_cons, List.not_mem_nil, or_false, not_or] at hj
    simp [statusD6, bitSlot_getLsbD, hj]
  · intro j hj
    simp only [List.mem_cons, List.not_mem_nil, or_false, not_or] at hj
    simp [statusD8, bitSlot_getLsbD, hj]

/-! ## non-vacuity: concrete states and histories meeting the hypotheses -/

example : SignalOk {} ∧ SignalOk { semaphore := 5, semaphoreMask := 4, semaphoreMasterSignal := true } := by
  decide
/-- A history with a rise on `semMask` in the repaired code: the handler is called. -/
example : (run true [.semMask 2, .semSet 2, .semMask 0] {}).2 = [(0, []), (0, []), (0, [.semaphore])] ∧
    (run true [.semMask 2, .semSet 2, .semMask 0] {}).1.isSemaphoreSignaled = true := by decide
/-- A write with the interrupt disabled sets the flag silently; read returns it and clears. -/
example : (run true [.setDisable 1 1, .send 1 0x1234, .isReady 1, .peek 1, .recv 1, .isReady 1] {}).2 =
    [(0, []), (0, []), (1, []), (0x1234, []), (0x1234, []), (0, [])] := by decide
example : (run true [.send 2 7] {}).2 = [(0, [.data 2])] := by decide
example : ¬ Op.writes 1 (.recv 1) ∧ ¬ Op.writes 1 (.send 0 3) ∧ Op.isMask (.semSet 1) = false := by
  exact ⟨id, (by decide : ¬ ((0 : Fin 3) = 1)), rfl⟩
example : statusD6 0 (step true {} (.send 1 9)).1 (step true {} (.send 0 9)).1 = 0x1020 := by decide

end Teakra.Apbp
