import TeakraModel.MmioKinds
import TeakraModel.Generated.MmioBind
/-!
# C12 — the cell bindings of `src/mmio.cpp`, translated on every run

`TeakraModel/Generated/MmioBind.lean` is rewritten by `tools/translate_mmio.py` from the constructor of `MMIORegion` of the
tree under test (loops unrolled, offsets evaluated, accessor expressions identified by the hash of their canonical text).
The theorems below are re-checked by the kernel against that table on every run:

* `bind_wellformed` – every bound offset is an even number below `0x800`, no offset is assigned twice (`mmioDups`, where
  the translator lists the offsets the constructor assigns more than once, is empty), and the slots of
  every bit-field cell lie inside the 16-bit word, in ascending order, without overlap (two fields of one register never
  share a bit);
* `bind_setters_distinct` – no two registers (or register fields) are bound to the same setter or backing variable:
  at the level of the bindings, a write to one register reaches no other register's storage;
* `bind_offsets_eq_model`, `bind_const_eq_model`, `bind_mask_eq_model` – the hand-written model of the register map
  (`cellTable`, `Cell.kind`, which the theorems of `Proofs/C12.lean` are about) has a cell exactly where the source binds
  one, the same constant cells, and for every bit-field register the read/write mask of the model is the complement of the
  bits whose slot has a getter but no setter (status bits), the timer control words apart (their restart bit has a getter
  that returns 0);
* `bind_eq_golden` (in `Proofs/C12BindGolden.lean`, built separately so that the theorems here are still re-checked when
  it fails) – the table equals the committed translation of the pinned tree (`Golden/MmioBind.lean`), against
  which the model's per-cell read/write functions were written: any change of an offset, slot position or width, slot
  order, accessor, object or channel index in `mmio.cpp` breaks this obligation before any input is run.
-/
namespace Teakra

def MSlot.mask (s : MSlot) : Nat := ((1 <<< s.len) - 1) <<< s.pos

/-- Slots inside the word, ascending and disjoint (`lo` = first free bit). -/
def slotsOk : Nat → List MSlot → Bool
  | _, [] => true
  | lo, s :: r => decide (lo ≤ s.pos) && decide (0 < s.len) && decide (s.pos + s.len ≤ 16) && slotsOk (s.pos + s.len) r

def MBind.ok : MBind → Bool
  | .bitfield slots => slotsOk 0 slots
  | .const c => decide (c < 0x10000)
  | _ => true

def offsetsOk : Nat → List (Nat × MBind) → Bool
  | _, [] => true
  | lo, p :: r => decide (lo ≤ p.1) && decide (p.1 % 2 = 0) && decide (p.1 < 0x800) && p.2.ok && offsetsOk (p.1 + 1) r

/-- Ids of everything a write can reach: setters and backing variables (`0` = no setter, `1` = empty lambda and
`2` = `NoSet` excluded; the numbering is that of `TeakraModel/MmioBindTypes.lean`). -/
def MBind.setters : MBind → List Nat
  | .ref v => [v]
  | .halves s _ => if s = 0 ∨ s = 1 ∨ s = 2 then [] else [s]
  | .bitfield slots => (slots.map (·.set)).filter (fun s => !(s = 0 || s = 1 || s = 2))
  | _ => []

def allSetters (t : List (Nat × MBind)) : List Nat := t.flatMap (·.2.setters)

/-- Bits of a bit-field cell that have a getter and no setter: status bits, not storage. -/
def roBits (slots : List MSlot) : Nat :=
  slots.foldl (fun acc s => if s.get ≠ 0 ∧ s.set = 0 then acc ||| s.mask else acc) 0

def MBind.isFresh : MBind → Bool
  | .fresh => true
  | _ => false

def constOk (p : Nat × MBind) : Bool :=
  match p.2 with
  | .const c => decide (cellAt p.1 = Cell.const (BitVec.ofNat 16 c))
  | _ => true

/-- A bit-field cell of the source is a read/write cell of the model whose mask avoids the status bits and, with them,
fills the word.  At `0x20` / `0x30` (timer control) it need not fill it: the restart bit 10 has a setter and a getter
that returns 0, so it is neither a status bit nor in the mask `0xFBFF`. -/
def maskOk (p : Nat × MBind) : Bool :=
  match p.2 with
  | .bitfield slots =>
    match (kindAt p.1).rwMask with
    | some m => decide (m.toNat &&& roBits slots = 0) &&
                (decide (m.toNat ||| roBits slots = 0xFFFF) || decide (p.1 = 0x20) || decide (p.1 = 0x30))
    | none => false
  | _ => true

open Generated in
theorem bind_wellformed : offsetsOk 0 mmioBind = true ∧ mmioDups = [] := by decide +kernel

/-- `Nodup` as a function the kernel runs on `Nat.beq` alone. -/
def nodupB : List Nat → Bool
  | [] => true
  | a :: l => !l.contains a && nodupB l

theorem nodupB_sound : ∀ l : List Nat, nodupB l = true → l.Nodup
  | [], _ => List.nodup_nil
  | a :: l, h => by
    simp only [nodupB, Bool.and_eq_true, Bool.not_eq_true', List.contains_eq_mem, decide_eq_false_iff_not] at h
    exact List.nodup_cons.mpr ⟨h.1, nodupB_sound l h.2⟩

open Generated in
theorem bind_setters_distinct : (allSetters mmioBind).Nodup := nodupB_sound _ (by decide +kernel)

open Generated in
theorem bind_offsets_eq_model :
    (mmioBind.filter (fun p => !p.2.isFresh)).map (·.1) = cellTable.map (·.1) := by decide +kernel

open Generated in
theorem bind_const_eq_model : mmioBind.all constOk = true := by decide +kernel

open Generated in
theorem bind_mask_eq_model : mmioBind.all maskOk = true := by decide +kernel

private theorem flatMap_nodup_disjoint {α β : Type} (f : α → List β) : ∀ (l : List α), (l.flatMap f).Nodup →
    ∀ a ∈ l, ∀ b ∈ l, a ≠ b → ∀ s, s ∈ f a → s ∈ f b → False
  | [], _, a, ha, _, _, _, _, _, _ => by cases ha
  | x :: r, h, a, ha, b, hb, hne, s, hsa, hsb => by
    rw [List.flatMap_cons, List.nodup_append] at h
    obtain ⟨_, hr, hdisj⟩ := h
    rcases List.mem_cons.mp ha with rfl | ha' <;> rcases List.mem_cons.mp hb with rfl | hb'
    · exact hne rfl
    · exact hdisj s hsa s (List.mem_flatMap.mpr ⟨b, hb', hsb⟩) rfl
    · exact hdisj s hsb s (List.mem_flatMap.mpr ⟨a, ha', hsa⟩) rfl
    · exact flatMap_nodup_disjoint f r hr a ha' b hb' hne s hsa hsb

/-- In the words of the property: two different bound cells never share a setter or a backing variable, so at the level
of the bindings a write to one register reaches no other register's storage. -/
theorem setters_disjoint_of_ne {p₁ p₂ : Nat × MBind}
    (h₁ : p₁ ∈ Generated.mmioBind) (h₂ : p₂ ∈ Generated.mmioBind) (hne : p₁ ≠ p₂)
    {s : Nat} (hs₁ : s ∈ p₁.2.setters) (hs₂ : s ∈ p₂.2.setters) : False :=
  flatMap_nodup_disjoint (fun p : Nat × MBind => p.2.setters) Generated.mmioBind bind_setters_distinct p₁ h₁ p₂ h₂ hne s hs₁ hs₂

theorem slotsOk_bounds : ∀ (lo : Nat) (l : List MSlot), slotsOk lo l = true →
    ∀ s ∈ l, lo ≤ s.pos ∧ s.pos + s.len ≤ 16
  | _, [], _, s, hs => by cases hs
  | lo, a :: r, h, s, hs => by
    simp only [slotsOk, Bool.and_eq_true, decide_eq_true_eq] at h
    rcases List.mem_cons.mp hs with rfl | hr
    · exact ⟨h.1.1.1, h.1.2⟩
    · have := slotsOk_bounds _ r h.2 s hr
      omega

-- non-vacuity: the table is not empty, has bit-field cells with status bits, and the model knows them
example : Generated.mmioBind.length = 115 := by decide +kernel
example : kindAt 0x0D6 = .rw 0xCC1F ∧ (Generated.mmioBind.lookup 0x0D6).map (fun b => match b with
    | .bitfield sl => roBits sl | _ => 0) = some 0x33E0 := by decide +kernel

end Teakra
