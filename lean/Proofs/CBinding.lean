import TeakraModel.Generated.Facade
import TeakraModel.Generated.CBinding
/-!
# The C binding `src/teakra_c.cpp` forwards faithfully (translated on every run)

Every function of the binding that is a plain forwarder `Teakra_X(ctx, p…) { [return] ctx->teakra.M(a…); }` is translated
into a row (`tools/translate_facade.py`), and the kernel re-checks over the regenerated rows:

* `cbinding_same_method` – `Teakra_X` calls the method named `X`;
* `cbinding_args_in_order` – it passes exactly its own parameters, in order (no argument dropped, swapped or defaulted);
* `cbinding_types_agree` – the parameter types of the C function are those of the C++ method it calls (no narrowing of an
  address or value on the way through the binding), the C++ side taken from the facade table translated from
  `src/teakra.cpp`.

The correspondence harness routes the host calls of the `bus` unit through this binding at random (`bus new capi`); these
theorems say the binding adds nothing of its own for every forwarded function, including the ones no script calls.
-/
namespace Teakra

open Generated in
theorem cbinding_same_method : (cForwarders.all fun f => f.cname = f.method) = true := by decide +kernel

open Generated in
theorem cbinding_args_in_order : (cForwarders.all fun f => f.args = f.pnames) = true := by decide +kernel

open Generated in
theorem cbinding_types_agree :
    (cForwarders.all fun f => methodSigs.contains (f.method, f.ptypes)) = true := by decide +kernel

/-- In the words of the property: a forwarded call reaches the C++ method of the same name with the same arguments. -/
theorem cbinding_forwards {f : CFwd} (h : f ∈ Generated.cForwarders) :
    f.cname = f.method ∧ f.args = f.pnames ∧ (f.method, f.ptypes) ∈ Generated.methodSigs := by
  refine ⟨?_, ?_, ?_⟩
  · simpa using List.all_eq_true.mp cbinding_same_method f h
  · simpa using List.all_eq_true.mp cbinding_args_in_order f h
  · simpa [List.contains_iff_mem] using List.all_eq_true.mp cbinding_types_agree f h

example : Generated.cForwarders.length = 29 := by decide +kernel

end Teakra
