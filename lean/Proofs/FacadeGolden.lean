import TeakraModel.Generated.Facade
import TeakraModel.Golden.Facade
import TeakraModel.Generated.CBinding
import TeakraModel.Golden.CBinding
/-!
The facade translated from `src/teakra.cpp` and the C binding translated from `src/teakra_c.cpp` of the tree under test
equal the committed translations of the pinned tree, against which the host-API functions of `TeakraModel/Bus.lean`
(one per `Teakra::method`) were written.
-/
namespace Teakra

theorem facade_eq_golden :
    Generated.members = Golden.members ∧ Generated.wiring = Golden.wiring ∧ Generated.resetCalls = Golden.resetCalls ∧
    Generated.methods = Golden.methods ∧ Generated.methodSigs = Golden.methodSigs ∧
    Generated.cForwarders = Golden.cForwarders ∧ Generated.cSpecial = Golden.cSpecial ∧ Generated.icuToCore = Golden.icuToCore ∧ Generated.setMmio = Golden.setMmio :=
  ⟨rfl, rfl, rfl, rfl, rfl, rfl, rfl, rfl, rfl⟩

end Teakra
