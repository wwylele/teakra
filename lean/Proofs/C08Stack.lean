import Proofs.C08Stack.Word
import Proofs.C08Stack.Call
import Proofs.C08Stack.CallRet
import Proofs.C08Stack.Interrupt
import Proofs.C08Stack.PushPop
import Proofs.C08Stack.Pusha
import Proofs.C08Stack.PxAbe
import Proofs.C08Stack.Acc
import Proofs.C08Stack.PHigh
import Proofs.C08Stack.Abs
import Proofs.C08Stack.Status
import Proofs.C08Stack.StatusPush
import Proofs.C08Stack.StatusNorm
import Proofs.C08Stack.Cycle
import Proofs.C08Stack.Examples
/-!
# C08 — calls, returns, stack push/pop, interrupt entry/return restore state exactly

`Proofs/C08.lean` has the context store/restore pair and the bank exchanges on the register file; here is
everything that goes through the stack.  All statements are about the handlers of
`TeakraModel/Exec/{Control,Stack}.lean` run on a `Core` whose stack slots are *ordinary data memory*
(`OrdinaryAt`, `Proofs/Lemmas/CoreBus.lean`: outside the MMIO window, `ConvertDataAddress` passes its
`ASSERT`s, inside the shared memory).  Every result is an *exact* final state: the register file,
and the machine `afterPushPop…` which differs from the initial one only in the stack slot(s) and
the access log.

| file | content | headline theorems |
|---|---|---|
| `Word` | one word, two words | `busRead_busWrite_ordinary`, `push_pop_word`, `push2_pop2`, `OrdinaryAt.cell_ne` |
| `Call` | `PushPC`/`PopPC`, frames | `pushPC_popPC`, `pushPC_popPC_both_orders`, `ReturnFrame`, `popPC_frame` |
| `CallRet` | call × return forms | `call_ret_roundtrip`, `call_rets_roundtrip`, `call_reti_roundtrip`, `call_body_ret`, `call_cond_false`, `ret_cond_false` |
| `Cycle` | in the loop body | `execPhase_call` (pushed `pc` = address after the call), `execPhase_ret` |
| `Interrupt` | entry / `reti` / `retic` | `entry_reti_roundtrip`, `entry_retic_roundtrip`, `entry_body_reti`, vectored variants |
| `PushPop` | plain registers | `push_pop_register`, `push_pop_r6`, `…x0/x1/y1/repc/prpage` |
| `Acc` | accumulator parts | `push_pop_acc_part`, `push_pop_acc_part_value`, `push_pop_acc_part_restores`, `…_counterexample` |
| `Pusha` | accumulator access, `pusha`/`popa` | `pusha_popa`, `pusha_popa_restores`, `pusha_popa_sat_off`, counterexamples |
| `PxAbe` | `push px`, `push abe` | `push_px_pop_px(_restores,_partial)`, `push_abe_pop_abe(_restores)`, counterexamples |
| `PHigh` | `push p` | `push_pop_p`, `push_pop_p_partial`, `push_pop_p_counterexample` |
| `Abs`, `Status`, `StatusPush`, `StatusNorm` | status/config/`ar`/`arp` words via C20 | `wordGet_field`, `wordSet_wordGet`, `status_set_get`, `push_pop_status_register`, `push_pop_status_arArpSttMod`, `push_pop_st0_partial`, `push_pop_st1_partial`, `push_pop_{st0,st1,stt2,width}_counterexample` |
| `Examples` | non-vacuity | concrete instances of the above (none for `push p`, `PHigh`) |
-/
