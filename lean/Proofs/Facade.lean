import TeakraModel.Periph
import TeakraModel.Generated.Facade
/-!
# The facade wiring and Reset list of `src/teakra.cpp`, translated on every run

`TeakraModel/Generated/Facade.lean` is rewritten by `tools/translate_facade.py` from the tree under test.  The theorems
are re-checked by the kernel over that table:

* `wiring_complete` – the constructor of `Teakra::Impl` registers an interrupt-raising handler at exactly the nine sites
  the model wires (both timers, the three CPU→DSP data channels, the CPU→DSP semaphore, both audio ports, the DMA),
  each exactly once, and nowhere else; the ICU's callbacks are bound to the core's latches (`icuToCore`) and the MMIO
  region is attached to the memory interface;
* `wiring_irq_eq_model` – every site raises the request number the model uses (`irqTimer`, `irqApbp`, `irqBtdmp`,
  `irqDma`): the composition theorems of C07 / C14 / C15 / C16 ("the source raises request n, request n reaches the
  core") are about the same numbers as the code;
* `reset_covers_members` – every data member of `struct Teakra::Impl` that holds emulator state is reset by
  `Impl::Reset` (each array element separately), and a member the translator does not know breaks the obligation: the
  Reset ≡ fresh theorems of C17 quantify over the same set of components as the code;
* `reset_no_unknown` – `Impl::Reset` contains nothing but the memory clear and `Reset()` calls on members.
-/
namespace Teakra

/-- The sites at which the model raises a request (the `raiseIf` / `raiseN` calls of `TeakraModel/Bus.lean` and
`TeakraModel/Mmio.lean`). -/
def expectedSites : List HSite :=
  [.timer 0, .timer 1, .apbpData 0, .apbpData 1, .apbpData 2, .apbpSem, .btdmp 0, .btdmp 1, .dma]

def HSite.modelIrq : HSite → Option Nat
  | .timer 0 => some (irqTimer 0)
  | .timer 1 => some (irqTimer 1)
  | .apbpData _ => some irqApbp
  | .apbpSem => some irqApbp
  | .btdmp _ => some irqBtdmp
  | .dma => some irqDma
  | _ => none

/-- What `Reset` has to reach for a member to be back in its constructed state. -/
def FMember.resetTargets : FMember → List RTarget
  | .coreTiming => []            -- holds only the references to the timers / audio ports it ticks
  | .sharedMemory => [.memory]
  | .miu => [.miu]
  | .icu => [.icu]
  | .apbpFromCpu => [.apbpFromCpu]
  | .apbpFromDsp => [.apbpFromDsp]
  | .timer => [.timer 0, .timer 1]
  | .ahbm => [.ahbm]
  | .dma => [.dma]
  | .btdmp => [.btdmp 0, .btdmp 1]
  | .mmio => [.mmio]
  | .memoryInterface => []       -- two references, no state of its own
  | .processor => [.processor]
  | .other id => [.other id]     -- unknown member: never covered

def RTarget.isOther : RTarget → Bool
  | .other _ => true
  | _ => false

open Generated in
theorem wiring_complete :
    (expectedSites.all fun s => (wiring.filter (fun p => p.1 = s)).length = 1) = true ∧
    wiring.length = expectedSites.length ∧ icuToCore = true ∧ setMmio = true := by decide +kernel

open Generated in
theorem wiring_irq_eq_model : (wiring.all fun p => p.1.modelIrq = some p.2) = true := by decide +kernel

open Generated in
theorem reset_covers_members :
    (members.all fun m => m.resetTargets.all fun t => resetCalls.contains t) = true := by decide +kernel

open Generated in
theorem reset_no_unknown : (resetCalls.any RTarget.isOther) = false ∧ resetCalls.Nodup := by decide +kernel

/-- In the words of the properties: a registered site raises exactly the model's request number. -/
theorem site_irq {s : HSite} {n : Nat} (h : (s, n) ∈ Generated.wiring) : s.modelIrq = some n := by
  simpa using List.all_eq_true.mp wiring_irq_eq_model (s, n) h

/-- Every state-holding member is reached by Reset. -/
theorem member_reset {m : FMember} (hm : m ∈ Generated.members) {t : RTarget} (ht : t ∈ m.resetTargets) :
    t ∈ Generated.resetCalls := by
  simpa using List.all_eq_true.mp (List.all_eq_true.mp reset_covers_members m hm) t ht

example : (HSite.timer 0, 0xA) ∈ Generated.wiring := by decide +kernel
example : FMember.timer ∈ Generated.members ∧ RTarget.timer 1 ∈ FMember.timer.resetTargets := by decide +kernel

end Teakra
