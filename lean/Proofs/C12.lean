import Proofs.Mmio.Bits
import Proofs.Mmio.Xfer
import Proofs.Mmio.Write
import Proofs.C11
import Proofs.C15
import TeakraModel.MmioKinds
/-!
# C12 — MMIO registers hold what was written and do not alias one another

Theorems about `Teakra.Bus.mmioRead` / `mmioWrite` (model of `MMIORegion::Read/Write`,
src/mmio.cpp), the two access paths `hostMmioRead/Write` (`MemoryInterface::MMIORead/MMIOWrite`)
and `dataRead/dataWrite` (`MemoryInterface::DataRead/DataWrite` inside the MMIO window).

The classification of the cells (`Cell.kind`, `Cell.coupledTo`, `Cell.emits`) is data in
`TeakraModel/MmioKinds.lean`; `rwRegisters`, `coupledList`, `triggerCells` below are the same
tables written out by offset, and `kind_table` / `coupled_table` / `emits_table` prove that they
are what the classification says.

Every fact below the bus is about one block of cells and its peripheral object: `…_frame` and `…_readback` say
what a write does inside its own block (the DMA channel window through `DmaCell.get` / `DmaCell.set` on the
selected channel).  `cellWrite_frame`, `cell_readback` and `cell_events` route a cell to its block (a write leaves
the other blocks' objects alone, as the new state shows), and the theorems of `namespace Bus` carry them from cells
to offsets through `cellAt`.
-/
namespace Teakra
open Bus

/-! ## the tables by offset -/

/-- Every read/write register that is not a plain storage cell, with the mask on which it reads
back what was written.  (All 0x800 − 111 offsets that the constructor of `MMIORegion` does not
assign are plain storage cells: read/write with mask 0xFFFF.) -/
def rwRegisters : List (Nat × U16) := [
  (0x20, 0xfbff), (0x24, 0xffff), (0x26, 0xffff), (0x28, 0xffff), (0x2a, 0xffff), (0x30, 0xfbff),
  (0x34, 0xffff), (0x36, 0xffff), (0x38, 0xffff), (0x3a, 0xffff), (0xc0, 0xffff), (0xc4, 0xffff),
  (0xc8, 0xffff), (0xce, 0xffff), (0xd4, 0xffff), (0xd6, 0xcc1f), (0xd8, 0x1ff), (0xe2, 0xffff),
  (0xe4, 0xffff), (0xe6, 0xffff), (0xe8, 0xffff), (0xea, 0xffff), (0xec, 0xffff), (0xee, 0xffff),
  (0xf0, 0xffff), (0xf2, 0xffff), (0x10e, 0xffff), (0x110, 0xffff), (0x112, 0xffff), (0x114, 0xffff),
  (0x116, 0xffff), (0x11a, 0xffff), (0x11e, 0xffff), (0x184, 0xffff), (0x1be, 0x7), (0x1c0, 0xffff),
  (0x1c2, 0xffff), (0x1c4, 0xffff), (0x1c6, 0xffff), (0x1c8, 0xffff), (0x1ca, 0xffff), (0x1cc, 0xffff),
  (0x1ce, 0xffff), (0x1d0, 0xffff), (0x1d2, 0xffff), (0x1d4, 0xffff), (0x1d6, 0xffff), (0x1d8, 0xffff),
  (0x1da, 0xffff), (0x1dc, 0xffff), (0x1de, 0xffff), (0x206, 0xffff), (0x208, 0xffff), (0x20a, 0xffff),
  (0x20c, 0xffff), (0x212, 0xffff), (0x214, 0xffff), (0x216, 0xffff), (0x218, 0xffff), (0x21a, 0xffff),
  (0x21c, 0xffff), (0x21e, 0xffff), (0x220, 0xffff), (0x222, 0xffff), (0x224, 0xffff), (0x226, 0xffff),
  (0x228, 0xffff), (0x22a, 0xffff), (0x22c, 0xffff), (0x22e, 0xffff), (0x230, 0xffff), (0x232, 0xffff),
  (0x234, 0xffff), (0x236, 0xffff), (0x238, 0xffff), (0x23a, 0xffff), (0x23c, 0xffff), (0x23e, 0xffff),
  (0x240, 0xffff), (0x242, 0xffff), (0x244, 0xffff), (0x246, 0xffff), (0x248, 0xffff), (0x24a, 0xffff),
  (0x24c, 0xffff), (0x24e, 0xffff), (0x250, 0xffff), (0x2a2, 0xffff), (0x2be, 0xffff), (0x2c2, 0xffe7),
  (0x322, 0xffff), (0x33e, 0xffff), (0x342, 0xffe7)]

/-- The documented couplings `(o, o')`: a write to `o` may change the read-back of `o'`.
Timer restart / event and the counter mirror; mailbox and semaphore flags in the status words;
interrupt trigger / acknowledge and the ICU request word; the DMA channel-window select and the
DMA start; the audio FIFO and its status word. -/
def coupledList : List (Nat × Nat) := [
  (0x20, 0x28), (0x20, 0x2a), (0x22, 0x28), (0x22, 0x2a), (0x22, 0x200), (0x30, 0x38), (0x30, 0x3a),
  (0x32, 0x38), (0x32, 0x3a), (0x32, 0x200), (0xc0, 0xd6), (0xc0, 0xd8), (0xc4, 0xd6), (0xc4, 0xd8),
  (0xc8, 0xd6), (0xc8, 0xd8), (0xce, 0xd6), (0xce, 0xd8), (0xce, 0x200), (0xd0, 0xd2), (0xd0, 0xd6),
  (0xd0, 0xd8), (0x1be, 0x1c0), (0x1be, 0x1c2), (0x1be, 0x1c4), (0x1be, 0x1c6), (0x1be, 0x1c8),
  (0x1be, 0x1ca), (0x1be, 0x1cc), (0x1be, 0x1ce), (0x1be, 0x1d0), (0x1be, 0x1d2), (0x1be, 0x1d4),
  (0x1be, 0x1d6), (0x1be, 0x1d8), (0x1be, 0x1dc), (0x1be, 0x1da), (0x1be, 0x1de), (0x1de, 0x200),
  (0x202, 0x200), (0x204, 0x200), (0x2c6, 0x2c2), (0x2ca, 0x2c2), (0x346, 0x342), (0x34a, 0x342)]

/-- The cells whose write can call a handler. -/
def triggerCells : List Nat := [0x22, 0x32, 0xc0, 0xc4, 0xc8, 0xcc, 0xce, 0x1de, 0x204]

/-! ## a DMA transfer leaves the registers alone -/

/-- The registers of a DMA channel that MMIO can read (everything but cursors, counters and the
running flag). -/
private def DmaChannel.regs (c : DmaChannel) : List U16 :=
  [c.addrSrcLow, c.addrSrcHigh, c.addrDstLow, c.addrDstHigh, c.size0, c.size1, c.size2, c.srcStep0, c.dstStep0,
   c.srcStep1, c.dstStep1, c.srcStep2, c.dstStep2, c.srcSpace, c.dstSpace, c.dwordMode, c.y, c.z]

private theorem DmaChannel.regs_start (c : DmaChannel) : c.start.regs = c.regs := rfl

private theorem DmaChannel.regs_advance (c : DmaChannel) : c.advance.regs = c.regs := by
  unfold DmaChannel.advance
  dsimp only
  -- every branch rewrites counters, cursors and the running flag only
  simp only [apply_ite DmaChannel.regs]
  simp only [DmaChannel.regs, ite_self]

section
variable {M E : Type} [DspMem M] [ExtMem E]

private theorem DmaChannel.run_regs {fuel : Nat} {c : DmaChannel} {w : World M E} {r : DmaChannel × World M E}
    (h : c.run fuel w = .ok r) : r.1.regs = c.regs ∧ r.2.ahbm.cfg = w.ahbm.cfg :=
  run_keeps (fun c1 w1 => c1.regs = c.regs ∧ w1.ahbm.cfg = w.ahbm.cfg)
    (fun c1 w1 w2 hx hi => ⟨c1.regs_advance.trans hi.1, ((c1.xfer_sat w1).1 w2 hx).trans hi.2⟩) fuel c w r h ⟨rfl, rfl⟩

private theorem Dma.doDma_spec {d : Dma} {w : World M E} {ch : U16} {r : Dma × World M E × Nat} (h : d.doDma w ch = .ok r) :
    ∃ (h : ch.toNat < 8) (c' : DmaChannel), c'.regs = d.channels[ch.toNat].regs ∧
      r.1 = { d with channels := d.channels.set ch.toNat c' } ∧ r.2.1.ahbm.cfg = w.ahbm.cfg := by
  unfold Dma.doDma Dma.doDmaFuel at h
  split at h
  · rename_i hch
    refine ⟨hch, ?_⟩
    -- as a variable the channel keeps `rfl` below from unfolding the vector access
    generalize d.channels[ch.toNat] = c at h ⊢
    simp only at h
    split at h <;> cases h
    rename_i c' w' hr
    exact ⟨c', (DmaChannel.run_regs hr).1.trans c.regs_start, rfl, (DmaChannel.run_regs hr).2⟩
  · cases h

private theorem Dma.setZ_spec {d : Dma} {w : World M E} {v : U16} {r : Dma × World M E × Nat} (h : d.setZ w v = .ok r) :
    ∃ (h : d.activeChannel.toNat < 8) (c' : DmaChannel),
      c'.regs = ({ d.channels[d.activeChannel.toNat] with z := v } : DmaChannel).regs ∧
      r.1 = { d with channels := d.channels.set d.activeChannel.toNat c' } ∧ r.2.1.ahbm.cfg = w.ahbm.cfg := by
  unfold Dma.setZ Dma.setActive at h
  split at h
  · rename_i d1 hs
    split at hs <;> cases hs
    rename_i ha
    split at h
    · obtain ⟨_, c', hc, hd, hw⟩ := Dma.doDma_spec h
      refine ⟨ha, c', ?_, ?_, hw⟩
      · simpa using hc
      · simp [hd]
    · cases h; exact ⟨ha, _, rfl, rfl, rfl⟩
  · cases h
end

/-! ## the DMA channel window: accessors on the selected channel -/

namespace Dma

theorem setActive_ok {d d' : Dma} {g : DmaChannel → DmaChannel} (h : d.setActive g = .ok d') :
    ∃ ha : d.activeChannel.toNat < 8,
      d' = { d with channels := d.channels.set d.activeChannel.toNat (g d.channels[d.activeChannel.toNat]) } := by
  unfold setActive at h
  split at h <;> cases h
  exact ⟨‹_›, rfl⟩

theorem getActive_eq (d : Dma) {α : Type} (g : DmaChannel → α) (ha : d.activeChannel.toNat < 8) :
    d.getActive g = .ok (g d.channels[d.activeChannel.toNat]) := by
  unfold getActive; simp [ha]

private theorem getActive_err (d : Dma) {α : Type} (g : DmaChannel → α) (ha : ¬ d.activeChannel.toNat < 8) :
    d.getActive g = .error .oob := by
  unfold getActive; simp [ha]

theorem getActive_set (d : Dma) {α : Type} (f : DmaChannel → α) (c : DmaChannel) (ha : d.activeChannel.toNat < 8) :
    ({ d with channels := d.channels.set d.activeChannel.toNat c } : Dma).getActive f = .ok (f c) := by
  unfold getActive; simp [ha]

theorem setActive_setActive {d d1 : Dma} {g : DmaChannel → DmaChannel} (h : d.setActive g = .ok d1)
    (k : DmaChannel → DmaChannel) : d1.setActive k = d.setActive (k ∘ g) := by
  obtain ⟨ha, rfl⟩ := setActive_ok h
  simp [setActive, ha]

end Dma

/-- What a window cell shows of the selected channel (`s`: the cell's storage word). -/
def DmaCell.get (s : U16) : DmaCell → DmaChannel → U16
  | .field f, c => f.get c
  | .cfg, c => bfGet (bfGet (bfGet s 0 4 c.srcSpace) 4 4 c.dstSpace) 10 1 c.dwordMode
  | .z, c => c.z
  | _, _ => 0

def DmaCell.set (v : U16) : DmaCell → DmaChannel → DmaChannel
  | .field f, c => f.set c v
  | .cfg, c => { c with srcSpace := bfField v 0 4, dstSpace := bfField v 4 4, dwordMode := bfField v 10 1 }
  | .z, c => { c with z := v }
  | _, c => c

def DmaCell.inWindow : DmaCell → Bool
  | .field _ | .cfg | .z => true
  | _ => false

theorem dmaCellRead_window (d : Dma) (s : U16) (c : DmaCell) (hc : c.inWindow = true) :
    dmaCellRead d s c = d.getActive (c.get s) := by
  cases c <;> first | rfl | exact absurd hc (by decide) | skip
  by_cases ha : d.activeChannel.toNat < 8 <;>
    simp [dmaCellRead, Dma.getSrcSpace, Dma.getDstSpace, Dma.getDwordMode, Dma.getActive, ha, DmaCell.get]

theorem dmaCellWrite_window {d d' : Dma} {st st' v : U16} {c : DmaCell} (h : dmaCellWrite d st c v = .ok (d', st'))
    (hc : c.inWindow = true) (hz : c ≠ .z) : d.setActive (c.set v) = .ok d' ∧ (c = .cfg → st' = v) := by
  cases c <;> try (first | exact absurd rfl hz | exact absurd hc (by decide))
  · simp only [dmaCellWrite] at h
    split at h <;> cases h
    exact ⟨‹_›, nofun⟩
  · simp only [dmaCellWrite, Dma.setSrcSpace, Dma.setDstSpace, Dma.setDwordMode] at h
    split at h
    · cases h
    · rename_i d1 h1
      rw [Dma.setActive_setActive h1] at h
      split at h
      · cases h
      · rename_i d2 h2
        rw [Dma.setActive_setActive h2] at h
        split at h <;> cases h
        exact ⟨‹_›, fun _ => rfl⟩

private theorem DmaField.get_set (f : DmaField) (c : DmaChannel) (v : U16) : f.get (f.set c v) = v := by
  cases f <;> rfl

theorem DmaField.get_set_ne (f f' : DmaField) (c : DmaChannel) (v : U16) (h : f ≠ f') : f'.get (f.set c v) = f'.get c := by
  cases f <;> cases f' <;> first | rfl | exact absurd rfl h

/-- `hs`: `cfg` overlays its three fields on the storage word, which therefore has to hold `v`. -/
theorem DmaCell.get_set (c : DmaCell) (hc : c.inWindow = true) (s v : U16) (ch : DmaChannel) (hs : c = .cfg → s = v) :
    c.get s (c.set v ch) = v := by
  cases c <;> try exact absurd hc (by decide)
  · exact DmaField.get_set _ _ _
  · simp [DmaCell.get, DmaCell.set, hs rfl, bfGet_self]
  · rfl

theorem DmaCell.get_set_ne (c c' : DmaCell) (h : c ≠ c') (s v : U16) (ch : DmaChannel) :
    c'.get s (c.set v ch) = c'.get s ch := by
  cases c <;> cases c' <;> first | rfl | exact absurd rfl h | skip
  · exact DmaField.get_set_ne _ _ _ _ (fun e => h (by rw [e]))
  all_goals (rename_i f; cases f <;> rfl)

private theorem DmaCell.get_regs (c : DmaCell) (s : U16) {c1 c2 : DmaChannel} (h : c1.regs = c2.regs) : c.get s c1 = c.get s c2 := by
  simp only [DmaChannel.regs, List.cons.injEq, and_true] at h
  obtain ⟨a1, a2, a3, a4, a5, a6, a7, a8, a9, a10, a11, a12, a13, a14, a15, a16, a17, a18⟩ := h
  cases c <;> first | rfl | skip
  · rename_i f; cases f <;> assumption
  · simp only [DmaCell.get, a14, a15, a16]
  · exact a18

private theorem dmaCellRead_set (d : Dma) (ha : d.activeChannel.toNat < 8) (ch' : DmaChannel) (s : U16) (c : DmaCell)
    (h : c.get s ch' = c.get s d.channels[d.activeChannel.toNat]) :
    dmaCellRead { d with channels := d.channels.set d.activeChannel.toNat ch' } s c = dmaCellRead d s c := by
  by_cases hc : c.inWindow = true
  · rw [dmaCellRead_window _ _ _ hc, dmaCellRead_window _ _ _ hc, Dma.getActive_set _ _ _ ha, Dma.getActive_eq _ _ ha, h]
  · cases c <;> first | rfl | exact absurd rfl hc

/-- Any write into the window, `0x1DE` with a transfer started included, gives the selected channel the registers of
`dc.set v` and touches nothing else of the DMA engine. -/
private theorem Bus.cellWrite_window {b b' : Bus} {off : Fin mmioSize} {v : U16} {dc : DmaCell} {ev : List PEvent}
    (h : b.cellWrite off v (.dma dc) = .ok (b', ev)) (hc : dc.inWindow = true) :
    ∃ (ha : b.per.dma.activeChannel.toNat < 8) (ch' : DmaChannel),
      ch'.regs = (dc.set v b.per.dma.channels[b.per.dma.activeChannel.toNat]).regs ∧
      b'.per.dma = { b.per.dma with channels := b.per.dma.channels.set b.per.dma.activeChannel.toNat ch' } ∧
      (dc = .cfg → b'.per.store[off] = v) := by
  by_cases hz : dc = .z
  · subst hz
    obtain ⟨d, w', n, hs, rfl⟩ := Bus.cellWrite_dmaZ h
    obtain ⟨ha, ch', hr, rfl, -⟩ := Dma.setZ_spec hs
    rw [Periph.raiseN_fst]
    exact ⟨ha, ch', hr, rfl, nofun⟩
  · obtain ⟨d, st, hw, rfl, -⟩ := Bus.cellWrite_dma hz h
    obtain ⟨hs, hst⟩ := dmaCellWrite_window hw hc hz
    obtain ⟨ha, rfl⟩ := Dma.setActive_ok hs
    exact ⟨ha, _, rfl, rfl, fun e => by simp [hst e]⟩

/-! ## frame inside one block, and at the level of cells -/

private def Icu.CfgEq (a b : Icu) : Prop :=
  a.enabled = b.enabled ∧ a.vectoredEnabled = b.vectoredEnabled ∧ a.vectorLow = b.vectorLow ∧
  a.vectorHigh = b.vectorHigh ∧ a.vectorContextSwitch = b.vectorContextSwitch

private theorem icu_ack_cfg (s : Icu) (v : U16) : Icu.CfgEq (s.acknowledge v) s := ⟨rfl, rfl, rfl, rfl, rfl⟩
private theorem icu_trigger_cfg (s : Icu) (v : U16) : Icu.CfgEq (s.trigger v).1 s := ⟨rfl, rfl, rfl, rfl, rfl⟩

theorem vset_ne {α : Type} {n : Nat} (s : Vector α n) (i j : Fin n) (x : α) (h : i ≠ j) :
    (s.set i.val x i.isLt)[j.val]'j.isLt = s[j.val]'j.isLt :=
  Vector.getElem_set_ne _ _ (fun e => h (Fin.ext e))

private theorem vset_self {α : Type} {n : Nat} (s : Vector α n) (i : Fin n) (x : α) :
    (s.set i.val x i.isLt)[i.val]'i.isLt = x := Vector.getElem_set_self _

theorem apbp_cpuEv (cpu dsp : Apbp) (st : U16) (c : ApbpCell) (v : U16) (hc : c ≠ .semMask) :
    (apbpCellWrite cpu dsp st c v).cpuEv = [] := by
  cases c <;> simp_all [apbpCellWrite]

private theorem Periph.raiseN_zero (p : Periph) (irq : Nat) : p.raiseN irq 0 = (p, []) := rfl

theorem Timer.cellWrite_cfg {t t' : Timer} {st st' v : U16} {f : Bool} (h : t.cellWrite st .cfg v = .ok (t', st', f)) :
    t'.ctl = [bfField v 9 1, bfField v 8 1, bfField v 2 3, bfField v 0 2, t.startHigh, t.startLow] ∧ st' = v ∧
      f = false := by
  simp only [Timer.cellWrite] at h
  split at h
  · split at h <;> cases h
    exact ⟨Timer.restart_ctl _ _ ‹_›, rfl, rfl⟩
  · cases h; exact ⟨rfl, rfl, rfl⟩

theorem Timer.cellWrite_ew {t t' : Timer} {st st' v : U16} {f : Bool} (h : t.cellWrite st .ew v = .ok (t', st', f)) :
    t'.ctl = t.ctl := by
  simp only [Timer.cellWrite] at h
  split at h <;> cases h
  · exact Timer.tickEvent_ctl t
  · rfl

theorem Timer.cellWrite_fired {t t' : Timer} {st st' : U16} {c : TimerCell} {v : U16} {f : Bool}
    (h : t.cellWrite st c v = .ok (t', st', f)) (hc : c ≠ .ew) : f = false := by
  cases c
  case cfg => exact (Timer.cellWrite_cfg h).2.2
  case ew => exact absurd rfl hc
  all_goals (cases h; rfl)

theorem timer_frame (t t' : Timer) (st st' : U16) (tc tc' : TimerCell) (v : U16) (f : Bool) (i : Fin 2)
    (h : t.cellWrite st tc v = .ok (t', st', f)) (hne : tc ≠ tc')
    (hnc : Cell.timer i tc' ∉ (Cell.timer i tc).coupledTo) (s : U16) :
    t'.cellRead s tc' = t.cellRead s tc' := by
  cases tc
  case cfg =>
    have := (Timer.cellWrite_cfg h).1
    simp [Timer.ctl] at this
    cases tc' <;> simp_all [Cell.coupledTo, Timer.cellRead]
  case ew =>
    have := Timer.cellWrite_ew h
    simp [Timer.ctl] at this
    cases tc' <;> simp_all [Cell.coupledTo, Timer.cellRead]
  all_goals (cases h; cases tc' <;> first | rfl | exact absurd rfl hne)

theorem writeD4_channel (cpu : Apbp) (v : U16) (ch : Fin 3) :
    (writeD4 cpu v).isDataReady ch = cpu.isDataReady ch ∧ ((writeD4 cpu v).recvData ch).2 = (cpu.recvData ch).2 := by
  have h3 : ch = 0 ∨ ch = 1 ∨ ch = 2 := by omega
  rcases h3 with rfl | rfl | rfl <;>
    simp [writeD4, Apbp.setDisableInterrupt, DataChannel.setDisableInterrupt, Apbp.isDataReady, Apbp.recvData,
      DataChannel.isReady, DataChannel.recv]

theorem apbp_frame (cpu dsp : Apbp) (st : U16) (c c' : ApbpCell) (v : U16) (hne : c ≠ c')
    (hnc : Cell.apbp c' ∉ (Cell.apbp c).coupledTo) (s : U16) :
    (apbpCellRead (apbpCellWrite cpu dsp st c v).cpu (apbpCellWrite cpu dsp st c v).dsp s c').2 =
      (apbpCellRead cpu dsp s c').2 := by
  -- per written cell, then per read cell; a read of the object the write left alone closes at once
  cases c <;> simp only [apbpCellWrite] <;> try rfl
  all_goals cases c' <;> simp only [apbpCellRead]
  all_goals first | exact absurd rfl hne | (simp [Cell.coupledTo] at hnc; done) | skip
  case cfg.recv ch => exact (writeD4_channel cpu v ch).2
  case cfg.sts => simp only [statusD6, writeD4_channel]; rfl
  case cfg.psts => simp only [statusD8, writeD4_channel]; rfl
  case send.send ch ch' =>
    have : ch.val ≠ ch'.val := fun e => hne (by rw [Fin.ext e])
    simp [Apbp.sendData, Apbp.peekData, this]
  -- what is left reads a field of the record that the operation does not write
  all_goals simp only [Apbp.sendData, Apbp.peekData, Apbp.recvData, Apbp.setSemaphore, Apbp.maskSemaphoreGen, busApbpMaskFixed,
    Apbp.clearSemaphore, Apbp.getSemaphore, Apbp.getSemaphoreMask, configD4, statusD6, statusD8, Apbp.isDataReady,
    Apbp.isSemaphoreSignaled, Apbp.getDisableInterrupt, writeD4, Apbp.setDisableInterrupt, if_true]

theorem Ahbm.getCh_setCh (a : Ahbm) (i j : Fin 3) (c : AhbmChannel) :
    (a.setCh i.val c).getCh j.val = if i = j then c else a.getCh j.val := by
  match i, j with
  | 0, 0 | 0, 1 | 0, 2 | 1, 0 | 1, 1 | 1, 2 | 2, 0 | 2, 1 | 2, 2 => rfl

@[simp] theorem Ahbm.busyFlag_setCh (a : Ahbm) (k : Nat) (c : AhbmChannel) : (a.setCh k c).busyFlag = a.busyFlag := by
  unfold Ahbm.setCh; split <;> rfl

theorem ahbm_frame (a : Ahbm) (st : U16) (c c' : AhbmCell) (v : U16) (hne : c ≠ c') (s : U16) :
    ahbmCellRead (ahbmCellWrite a st c v).1 s c' = ahbmCellRead a s c' := by
  cases c <;> cases c' <;> simp_all [ahbmCellWrite, ahbmCellRead, Ahbm.getCh_setCh, Ahbm.getBusyFlag]
  all_goals (split <;> simp_all)

theorem miu_frame (m : Miu) (st : U16) (c c' : MiuCell) (v : U16) (hne : c ≠ c') (s : U16) :
    miuCellRead (miuCellWrite m st c v).1 s c' = miuCellRead m s c' := by
  cases c <;> cases c' <;> simp_all [miuCellWrite, miuCellRead]
  rename_i k1 k2
  have h1 := vset_ne m.xSize k1 k2 (bfField v 0 6) hne
  have h2 := vset_ne m.ySize k1 k2 (bfField v 8 6) hne
  rw [h1, h2]

theorem icu_frame (x : Icu) (st : U16) (c c' : IcuCell) (v : U16) (hne : c ≠ c')
    (hnc : Cell.icu c' ∉ (Cell.icu c).coupledTo) (s : U16) :
    icuCellRead (icuCellWrite x st c v).1 s c' = icuCellRead x s c' := by
  -- different fields of the record, or different entries of one of its vectors
  cases c <;> cases c' <;> first | rfl | exact absurd rfl hne | skip
  · simp [Cell.coupledTo] at hnc
  · simp [Cell.coupledTo] at hnc
  · rename_i k1 k2
    exact vset_ne x.enabled k1 k2 v (fun e => hne (by rw [e]))
  · rename_i k1 k2
    simp only [icuCellWrite, icuCellRead, Fin.getElem_fin, vset_ne _ k1 k2 _ (fun e => hne (by rw [e]))]
  · rename_i k1 k2
    exact vset_ne x.vectorLow k1 k2 v (fun e => hne (by rw [e]))

theorem bt_frame (x : Btdmp) (st : U16) (c c' : BtCell) (v : U16) (hne : c ≠ c') (i : Fin 2)
    (hnc : Cell.btdmp i c' ∉ (Cell.btdmp i c).coupledTo) (s : U16) :
    btCellRead (btCellWrite x st c v).1 s c' = btCellRead x s c' := by
  cases c <;> cases c' <;> simp_all [Cell.coupledTo, btCellWrite, btCellRead, Btdmp.setTransmitClockConfig,
    Btdmp.getTransmitClockConfig, Btdmp.setTransmitEnable, Btdmp.getTransmitEnable, Btdmp.getTransmitFlush,
    Btdmp.setTransmitFlush, Btdmp.getTransmitFull, Btdmp.getTransmitEmpty]
  all_goals first | rfl | (unfold Btdmp.send; split <;> rfl)

theorem dmaWindowCells_mem (c : DmaCell) (h : c.inWindow = true) : Cell.dma c ∈ dmaWindowCells := by
  cases c <;> first | exact absurd h (by decide) | skip
  · rename_i f
    exact List.mem_append_left _ (List.mem_map_of_mem (by cases f <;> decide))
  all_goals exact List.mem_append_right _ (by decide)

/-- Frame for a write to one of the cells of the DMA block outside the channel window (`0x184`, `0x18C`, `0x1BE`). -/
theorem dma_frame (d d' : Dma) (st st' : U16) (c c' : DmaCell) (v : U16)
    (h : dmaCellWrite d st c v = .ok (d', st')) (hc : c.inWindow = false) (hne : c ≠ c')
    (hnc : Cell.dma c' ∉ (Cell.dma c).coupledTo) (s : U16) : dmaCellRead d' s c' = dmaCellRead d s c' := by
  cases c <;> simp [DmaCell.inWindow] at hc <;> cases h
  · cases c' <;> first | rfl | exact absurd rfl hne
  · rfl
  · -- the select word: every window cell is coupled to it
    by_cases hw : c'.inWindow = true
    · exact absurd (dmaWindowCells_mem c' hw) hnc
    · cases c' <;> first | rfl | exact absurd rfl hne | exact absurd rfl hw

private theorem coupledTo_no_store (c : Cell) : Cell.store ∉ c.coupledTo := by
  unfold Cell.coupledTo
  split <;> simp [dmaWindowCells]

theorem ahbmCellRead_cfg (a a' : Ahbm) (s : U16) (c : AhbmCell) (h : a'.cfg = a.cfg) :
    ahbmCellRead a' s c = ahbmCellRead a s c := by
  simp [Ahbm.cfg, AhbmChannel.cfg] at h
  obtain ⟨h0, ⟨a1, a2, a3, a4⟩, ⟨b1, b2, b3, b4⟩, ⟨c1, c2, c3, c4⟩⟩ := h
  cases c
  case busy => simp [ahbmCellRead, Ahbm.getBusyFlag, h0]
  all_goals
    rename_i i
    have hi : i.val = 0 ∨ i.val = 1 ∨ i.val = 2 := by omega
    rcases hi with hi | hi | hi <;> simp [ahbmCellRead, Ahbm.getCh, *]

private theorem icuCellRead_request (x : Icu) (r s : U16) (c : IcuCell) (h : c = .request → r = x.request) :
    icuCellRead { x with request := r } s c = icuCellRead x s c := by
  cases c <;> first | rfl | skip
  simp only [icuCellRead, Icu.getRequest, h rfl]

/-- `cell_frame` with the weaker `hne`: a plain storage cell is read back from another offset whatever was written.
The written cell gives the new state.  A read in another block sees an object the write did not touch (three cells also
raise the request word, the DMA start drives the AHBM queues); a read in the same block is the block's frame lemma. -/
theorem cellWrite_frame {b b' : Bus} {off off' : Fin mmioSize} {v : U16} {c c' : Cell} {ev : List PEvent}
    (h : b.cellWrite off v c = .ok (b', ev)) (hoff : off' ≠ off) (hne : c' ≠ .store → c ≠ c')
    (hnc : c' ∉ c.coupledTo) : b'.cellReadVal off' c' = b.cellReadVal off' c' := by
  have hst := fun st => vset_ne b.per.store off off' st hoff.symm
  cases c
  case timer i tc =>
    obtain ⟨t, st, f, r, hw, rfl, hf⟩ := Bus.cellWrite_timer h
    cases c' <;> simp only [cellReadVal, Fin.getElem_fin, hst]
    case timer j tc' =>
      by_cases hij : i = j
      · subst hij
        rw [vset_self]
        exact congrArg _ (timer_frame _ _ _ _ tc tc' v f i hw (fun e => hne nofun (by rw [e])) hnc _)
      · rw [vset_ne _ i j _ hij]
    case icu ic' =>
      -- only `TIMERx_EW` can call the handler, and it lists the request word among its couplings
      exact congrArg _ (icuCellRead_request _ _ _ _ fun e =>
        (hf (Timer.cellWrite_fired hw (by rintro rfl; simp [e, Cell.coupledTo] at hnc))).1)
  case apbp ac =>
    cases h
    rw [Periph.raiseN_fst]
    cases c' <;> simp only [cellReadVal, Fin.getElem_fin, hst]
    case apbp ac' =>
      exact congrArg _ (apbp_frame b.per.apbpFromCpu b.per.apbpFromDsp _ ac ac' v (fun e => hne nofun (by rw [e])) hnc _)
    case icu ic' =>
      -- `apbp_from_cpu` calls its handler for the semaphore mask only
      refine congrArg _ (icuCellRead_request _ _ _ _ fun e => ?_)
      rw [apbp_cpuEv _ _ _ _ _ (by rintro rfl; simp [e, Cell.coupledTo] at hnc)]
      rfl
  case dma dc =>
    -- inside the block: the selected channel's registers through the window, or one of the three cells outside it
    have hd : ∀ dc' s, dc ≠ dc' → Cell.dma dc' ∉ (Cell.dma dc).coupledTo →
        dmaCellRead b'.per.dma s dc' = dmaCellRead b.per.dma s dc' := by
      intro dc' s hne' hnc'
      by_cases hw : dc.inWindow = true
      · obtain ⟨ha, ch', hr, e, -⟩ := Bus.cellWrite_window h hw
        rw [e]
        exact dmaCellRead_set _ ha _ _ _ ((DmaCell.get_regs _ _ hr).trans (DmaCell.get_set_ne _ _ hne' _ _ _))
      · obtain ⟨d, st, hd, rfl, -⟩ := Bus.cellWrite_dma (by rintro rfl; exact hw rfl) h
        exact dma_frame _ _ _ _ dc dc' v hd (by simpa using hw) hne' hnc' _
    by_cases hz : dc = .z
    · subst hz
      obtain ⟨d, w', n, hs, rfl⟩ := Bus.cellWrite_dmaZ h
      rw [Periph.raiseN_fst] at hd ⊢
      cases c' <;> simp only [cellReadVal, Fin.getElem_fin]
      case dma dc' => exact hd dc' _ (fun e => hne nofun (by rw [e])) hnc
      case ahbm ac' =>
        -- a transfer drives the AHBM, but only its burst queues
        obtain ⟨_, _, _, _, ha⟩ := Dma.setZ_spec hs
        exact congrArg _ (ahbmCellRead_cfg _ _ _ _ ha)
      case icu ic' =>
        exact congrArg _ (icuCellRead_request _ _ _ _ fun e => absurd hnc (by simp [e, Cell.coupledTo]))
    · obtain ⟨d, st, hw, rfl, -⟩ := Bus.cellWrite_dma hz h
      cases c' <;> simp only [cellReadVal, Fin.getElem_fin, hst]
      exact hd _ _ (fun e => hne nofun (by rw [e])) hnc
  all_goals
    -- the other blocks put back their own object and the cell's storage word
    cases h
    cases c' <;> simp only [cellReadVal, Fin.getElem_fin, hst]
  · exact congrArg _ (ahbm_frame b.per.ahbm _ _ _ v (fun e => hne nofun (by rw [e])) _)
  · exact congrArg _ (miu_frame b.miu _ _ _ v (fun e => hne nofun (by rw [e])) _)
  · exact congrArg _ (icu_frame b.per.icu _ _ _ v (fun e => hne nofun (by rw [e])) hnc _)
  · rename_i i bc j bc'
    by_cases hij : i = j
    · subst hij
      rw [vset_self]
      exact congrArg _ (bt_frame _ _ bc bc' v (fun e => hne nofun (by rw [e])) i hnc _)
    · rw [vset_ne _ i j _ hij]

/-- The frame property at the level of cells. -/
theorem cell_frame (b b' : Bus) (off off' : Fin mmioSize) (v : U16) (c c' : Cell) (ev : List PEvent)
    (h : b.cellWrite off v c = .ok (b', ev)) (hoff : off' ≠ off) (hne : c ≠ c')
    (hnc : c' ∉ c.coupledTo) : b'.cellReadVal off' c' = b.cellReadVal off' c' :=
  cellWrite_frame h hoff (fun _ => hne) hnc

/-! ## read-back inside one block, and at the level of cells -/

private theorem bfGet_bfGet_self (s v : U16) (p1 l1 p2 l2 : Nat) (g : U16) (h : bfGet s p1 l1 g = v) :
    bfGet (bfGet s p1 l1 g) p2 l2 (bfField v p2 l2) = v := by
  rw [h]; exact bfGet_self v p2 l2

theorem configD4_writeD4 (v : U16) (cpu : Apbp) : configD4 v (writeD4 cpu v) = v := by
  have e : ∀ (value g : U16) (pos : Nat), ((value &&& ~~~((1 : U16) <<< pos)) ||| (g <<< pos)) = bfGet value pos 1 g := by
    intro value g pos; simp [bfGet]
  have f : ∀ pos, (v >>> pos) &&& 1 = bfField v pos 1 := by intro pos; simp [bfField]
  simp only [configD4, writeD4, Apbp.getDisableInterrupt, Apbp.setDisableInterrupt, DataChannel.getDisableInterrupt,
    DataChannel.setDisableInterrupt, e, f]
  simp [bfGet_self]

theorem timer_readback {t t' : Timer} {st st' v m : U16} {f : Bool} {tc : TimerCell} (i : Fin 2)
    (h : t.cellWrite st tc v = .ok (t', st', f)) (hm : (Cell.timer i tc).kind.rwMask = some m) :
    t'.cellRead st' tc &&& m = v &&& m := by
  cases tc <;> simp [Cell.kind, CellKind.rwMask] at hm <;> subst hm
  · obtain ⟨hc, rfl, -⟩ := Timer.cellWrite_cfg h
    simp [Timer.ctl] at hc
    simp only [Timer.cellRead, hc, bfGet_self]
    exact bfGet_zero_mask st'
  all_goals (cases h; simp [Timer.cellRead])

theorem apbp_readback (cpu dsp : Apbp) (st v m : U16) (c : ApbpCell) (hm : (Cell.apbp c).kind.rwMask = some m) :
    (apbpCellRead (apbpCellWrite cpu dsp st c v).cpu (apbpCellWrite cpu dsp st c v).dsp
      (apbpCellWrite cpu dsp st c v).st c).2 &&& m = v &&& m := by
  cases c <;> simp [Cell.kind, CellKind.rwMask] at hm <;> subst hm <;>
    simp [apbpCellWrite, apbpCellRead, Apbp.sendData, Apbp.peekData, DataChannel.send, DataChannel.peek,
      Apbp.maskSemaphoreGen, busApbpMaskFixed, Apbp.getSemaphoreMask, configD4_writeD4]
  · exact statusD6_mask _ _ _
  · exact statusD8_mask _ _ _

theorem ahbm_readback (a : Ahbm) (st v m : U16) (c : AhbmCell) (hm : (Cell.ahbm c).kind.rwMask = some m) :
    ahbmCellRead (ahbmCellWrite a st c v).1 (ahbmCellWrite a st c v).2 c &&& m = v &&& m := by
  cases c <;> simp [Cell.kind, CellKind.rwMask] at hm <;> subst hm <;>
    simp [ahbmCellWrite, ahbmCellRead, Ahbm.getCh_setCh, bfGet_self]

theorem miu_readback (u : Miu) (st v m : U16) (c : MiuCell) (hm : (Cell.miu c).kind.rwMask = some m) :
    miuCellRead (miuCellWrite u st c v).1 (miuCellWrite u st c v).2 c &&& m = v &&& m := by
  cases c <;> simp [Cell.kind, CellKind.rwMask] at hm <;> subst hm <;> simp [miuCellWrite, miuCellRead, bfGet_self]

theorem icu_readback (x : Icu) (st v m : U16) (c : IcuCell) (hm : (Cell.icu c).kind.rwMask = some m) :
    icuCellRead (icuCellWrite x st c v).1 (icuCellWrite x st c v).2.1 c &&& m = v &&& m := by
  cases c <;> simp [Cell.kind, CellKind.rwMask] at hm <;> subst hm <;>
    simp [icuCellWrite, icuCellRead, Icu.setEnable, Icu.getEnable, Icu.setEnableVectored, Icu.getEnableVectored, bfGet_self]

theorem bt_readback (x : Btdmp) (st v m : U16) (i : Fin 2) (c : BtCell) (hm : (Cell.btdmp i c).kind.rwMask = some m) :
    btCellRead (btCellWrite x st c v).1 (btCellWrite x st c v).2 c &&& m = v &&& m := by
  cases c <;> simp [Cell.kind, CellKind.rwMask] at hm <;> subst hm
  · simp [btCellWrite, btCellRead, Btdmp.setTransmitClockConfig, Btdmp.getTransmitClockConfig]
  · simp [btCellWrite, btCellRead, Btdmp.setTransmitEnable, Btdmp.getTransmitEnable]
  · simp only [btCellWrite]; exact btStatus_mask v _

/-- Read-back at the level of cells: after a successful write of `v`, the cell reads `v` on the
bits of its mask. -/
theorem cell_readback (b b' : Bus) (off : Fin mmioSize) (v m : U16) (c : Cell) (ev : List PEvent)
    (h : b.cellWrite off v c = .ok (b', ev)) (hm : c.kind.rwMask = some m) :
    ∃ r, b'.cellReadVal off c = .ok r ∧ r &&& m = v &&& m := by
  cases c
  case const k => simp [Cell.kind, CellKind.rwMask] at hm
  case timer i tc =>
    obtain ⟨t, st, f, r, hw, rfl, -⟩ := Bus.cellWrite_timer h
    simp only [cellReadVal, Fin.getElem_fin, Vector.getElem_set_self]
    exact ⟨_, rfl, timer_readback i hw hm⟩
  case apbp ac =>
    cases h
    rw [Periph.raiseN_fst]
    simp only [cellReadVal, Fin.getElem_fin, Vector.getElem_set_self]
    exact ⟨_, rfl, apbp_readback _ _ _ _ _ _ hm⟩
  case store =>
    cases h
    exact ⟨v, by simp [cellReadVal], rfl⟩
  case dma dc =>
    by_cases hw : dc.inWindow = true
    · -- the selected channel now has the registers of `dc.set v`, and the cell shows nothing but registers
      obtain ⟨ha, ch', hr, e, hst⟩ := Bus.cellWrite_window h hw
      refine ⟨v, ?_, rfl⟩
      simp only [cellReadVal, e]
      rw [dmaCellRead_window _ _ _ hw, Dma.getActive_set _ _ _ ha, DmaCell.get_regs _ _ hr, DmaCell.get_set _ hw _ _ _ hst]
    · obtain ⟨d, st, hd, rfl, -⟩ := Bus.cellWrite_dma (by rintro rfl; exact hw rfl) h
      cases dc <;> simp [DmaCell.inWindow] at hw <;> simp [Cell.kind, CellKind.rwMask] at hm <;> subst hm <;> cases hd
      · exact ⟨v, rfl, rfl⟩
      · refine ⟨v &&& 7, rfl, ?_⟩
        rw [BitVec.and_assoc]; rfl
  all_goals
    -- the other blocks put back their own object and the cell's storage word, which the read then sees
    cases h
    simp only [cellReadVal, Fin.getElem_fin, Vector.getElem_set_self]
    refine ⟨_, rfl, ?_⟩
  · exact ahbm_readback _ _ _ _ _ hm
  · exact miu_readback _ _ _ _ _ hm
  · exact icu_readback _ _ _ _ _ hm
  · exact bt_readback _ _ _ _ _ _ hm

/-! ## handler calls -/

theorem apbp_dspEv (cpu dsp : Apbp) (st : U16) (c : ApbpCell) (v : U16)
    (hc : (Cell.apbp c).emits = false) : (apbpCellWrite cpu dsp st c v).dspEv = [] ∧ (apbpCellWrite cpu dsp st c v).cpuEv = [] := by
  cases c <;> simp_all [apbpCellWrite, Cell.emits]

/-- Only trigger cells call handlers. -/
theorem cell_events (b b' : Bus) (off : Fin mmioSize) (v : U16) (c : Cell) (ev : List PEvent)
    (h : b.cellWrite off v c = .ok (b', ev)) (he : c.emits = false) : ev = [] := by
  cases c with
  | timer i tc =>
    obtain ⟨t, st, f, r, hw, -, hf⟩ := Bus.cellWrite_timer h
    exact (hf (Timer.cellWrite_fired hw (by rintro rfl; simp [Cell.emits] at he))).2
  | apbp ac =>
    cases h
    rw [(apbp_dspEv _ _ _ ac v he).1, (apbp_dspEv _ _ _ ac v he).2]
    rfl
  | icu ic =>
    cases h
    cases ic <;> simp_all [icuCellWrite, Cell.emits]
  | dma dc =>
    obtain ⟨_, _, _, _, rfl⟩ := Bus.cellWrite_dma (by rintro rfl; simp [Cell.emits] at he) h
    rfl
  | _ => cases h; rfl

namespace Bus

/-! ## the tables -/

/-- `cellTable` (the unrolled constructor) agrees with the loop arithmetic `Cell.off`. -/
theorem cellTable_off : ∀ e ∈ cellTable, e.2.off = some e.1 := by decide +kernel

theorem cellAt_cases (o : Nat) :
    (cellTable.lookup o = none ∧ cellAt o = .store) ∨ ((o, cellAt o) ∈ cellTable ∧ cellAt o ≠ .store) := by
  have ne : ∀ e ∈ cellTable, e.2 ≠ .store := by decide +kernel
  unfold cellAt
  cases hl : cellTable.lookup o with
  | none => exact .inl ⟨rfl, rfl⟩
  | some c =>
    obtain ⟨l₁, l₂, e, -⟩ := List.lookup_eq_some_iff.mp hl
    have hm : (o, c) ∈ cellTable := e ▸ List.mem_append_right l₁ List.mem_cons_self
    exact .inr ⟨hm, ne _ hm⟩

/-- A cell that the constructor assigns sits at the offset its loop arithmetic says. -/
theorem cellAt_off (o : Nat) (h : cellAt o ≠ .store) : (cellAt o).off = some o := by
  rcases cellAt_cases o with ⟨-, hs⟩ | ⟨hm, -⟩
  · exact absurd hs h
  · exact cellTable_off _ hm

/-- No two offsets share a peripheral register: assigned cells at different offsets are
different cells. -/
theorem cellAt_inj (o o' : Nat) (h : cellAt o ≠ .store) (he : cellAt o = cellAt o') : o = o' := by
  have h1 := cellAt_off o h
  have h2 := cellAt_off o' (he ▸ h)
  rw [he] at h1
  exact Option.some.inj (h1.symm.trans h2)

/-- `rwRegisters` is exactly the set of assigned cells classified read/write, with their masks;
every unassigned offset is a plain storage cell (mask 0xFFFF). -/
theorem kind_table (o : Nat) :
    (kindAt o).rwMask = if cellAt o = .store then some 0xFFFF else rwRegisters.lookup o := by
  have key : ∀ e ∈ cellTable, e.2.kind.rwMask = rwRegisters.lookup e.1 := by decide +kernel
  rcases cellAt_cases o with ⟨-, hs⟩ | ⟨hm, hs⟩
  · simp [kindAt, hs, Cell.kind, CellKind.rwMask]
  · simp [kindAt, hs, key _ hm]

/-- `coupledList` is exactly `Coupled`. -/
theorem coupled_table (o o' : Nat) : Coupled o o' ↔ (o, o') ∈ coupledList := by
  have key : ∀ e ∈ cellTable, e.2.coupledTo.filterMap Cell.off = (coupledList.filter (·.1 == e.1)).map (·.2) := by
    decide +kernel
  have assigned : ∀ p ∈ coupledList, (cellTable.lookup p.1).isSome := by decide +kernel
  unfold Coupled coupledOffs
  rcases cellAt_cases o with ⟨hl, hs⟩ | ⟨hm, -⟩
  · rw [hs]
    simp only [Cell.coupledTo, List.filterMap_nil, List.not_mem_nil, false_iff]
    intro hmem
    simpa [hl] using assigned _ hmem
  · rw [key _ hm]
    simp

/-- `triggerCells` is exactly `emitsAt`. -/
theorem emits_table (o : Nat) : emitsAt o = true ↔ o ∈ triggerCells := by
  have key : ∀ e ∈ cellTable, (e.2.emits = true ↔ e.1 ∈ triggerCells) := by decide +kernel
  have assigned : ∀ p ∈ triggerCells, (cellTable.lookup p).isSome := by decide +kernel
  unfold emitsAt
  rcases cellAt_cases o with ⟨hl, hs⟩ | ⟨hm, -⟩
  · rw [hs]
    simp only [Cell.emits, Bool.false_eq_true, false_iff]
    intro hmem
    simpa [hl] using assigned _ hmem
  · exact key _ hm

def readVal (b : Bus) (o : U16) : R U16 := (b.mmioRead o).map (·.1)

theorem readVal_eq (b : Bus) (o : U16) (h : o.toNat < mmioSize) :
    b.readVal o = b.cellReadVal ⟨o.toNat, h⟩ (cellAt o.toNat) := by
  unfold readVal
  rw [mmioRead_eq b o h]
  cases b.cellReadVal ⟨o.toNat, h⟩ (cellAt o.toNat) <;> rfl

/-- **Read-back.**  A successful write of `v` to a read/write register (`rwRegisters`, or any
plain storage cell) is followed by a read of that register that returns `v` on the bits of the
register's mask — through `MMIORegion::Read/Write`, hence through both access paths (`mirror_host`,
`mirror_dsp` below). -/
theorem rw_readback (b b' : Bus) (o v m : U16) (ev : List PEvent)
    (hk : (kindAt o.toNat).rwMask = some m) (hw : b.mmioWrite o v = .ok (b', ev)) :
    ∃ r, b'.readVal o = .ok r ∧ r &&& m = v &&& m := by
  obtain ⟨ho, hw⟩ := mmioWrite_ok hw
  rw [readVal_eq _ _ ho]
  exact cell_readback _ _ _ _ _ _ _ hw hk

/-- Read-back for the plain storage cells (every offset the constructor does not assign): the
whole word. -/
theorem rw_readback_store (b b' : Bus) (o v : U16) (ev : List PEvent)
    (hs : cellAt o.toNat = .store) (hw : b.mmioWrite o v = .ok (b', ev)) : b'.readVal o = .ok v := by
  have hk : (kindAt o.toNat).rwMask = some 0xFFFF := by simp [kindAt, hs, Cell.kind, CellKind.rwMask]
  obtain ⟨r, h1, h2⟩ := rw_readback _ _ _ _ _ _ hk hw
  rw [show (0xFFFF : U16) = BitVec.allOnes 16 by decide, BitVec.and_allOnes, BitVec.and_allOnes] at h2
  rw [h1, h2]

/-- The frame property by offsets; a plain storage cell is coupled to nothing. -/
theorem frame_of {b b' : Bus} {o o' v : U16} {ev : List PEvent} (hne : o ≠ o')
    (hnc : cellAt o'.toNat ≠ .store → ¬ Coupled o.toNat o'.toNat) (hw : b.mmioWrite o v = .ok (b', ev)) :
    b'.readVal o' = b.readVal o' := by
  obtain ⟨ho, hw⟩ := mmioWrite_ok hw
  by_cases ho' : o'.toNat < mmioSize
  · rw [readVal_eq _ _ ho', readVal_eq _ _ ho']
    have hn : o'.toNat ≠ o.toNat := fun e => hne (BitVec.eq_of_toNat_eq e).symm
    refine cellWrite_frame hw (fun e => hn (Fin.mk.inj e)) (fun hs e => hn (cellAt_inj _ _ hs e.symm)) fun hmem => ?_
    by_cases hs : cellAt o'.toNat = .store
    · exact coupledTo_no_store _ (hs ▸ hmem)
    · exact hnc hs (List.mem_filterMap.mpr ⟨_, hmem, cellAt_off _ hs⟩)
  · unfold readVal mmioRead
    simp [ho']

/-- **Frame.**  A write to offset `o` does not change what a read of any other offset `o'`
returns, unless `(o, o')` is one of the documented couplings (`coupledList`). -/
theorem frame (b b' : Bus) (o o' v : U16) (ev : List PEvent) (hne : o ≠ o')
    (hnc : ¬ Coupled o.toNat o'.toNat) (hw : b.mmioWrite o v = .ok (b', ev)) :
    b'.readVal o' = b.readVal o' :=
  frame_of hne (fun _ => hnc) hw

/-- Frame for the plain storage cells: nothing but a write to the same offset changes them. -/
theorem frame_store (b b' : Bus) (o o' v : U16) (ev : List PEvent) (hne : o ≠ o')
    (hs : cellAt o'.toNat = .store) (hw : b.mmioWrite o v = .ok (b', ev)) :
    b'.readVal o' = b.readVal o' :=
  frame_of hne (fun h => absurd hs h) hw

/-- **Only trigger cells call handlers.**  A write that makes any callback (interrupt signal to
the core, host handler, external-memory access) is a write to one of `triggerCells`. -/
theorem write_no_event_unless_trigger (b b' : Bus) (o v : U16) (ev : List PEvent)
    (hw : b.mmioWrite o v = .ok (b', ev)) (hev : ev ≠ []) : o.toNat ∈ triggerCells := by
  obtain ⟨ho, hw⟩ := mmioWrite_ok hw
  rw [← emits_table]
  cases he : emitsAt o.toNat with
  | true => rfl
  | false => exact absurd (cell_events _ _ _ _ _ _ hw he) hev

/-- MMIO reads never call a handler. -/
theorem read_no_event (b b' : Bus) (o r : U16) (ev : List PEvent) (h : b.mmioRead o = .ok (r, b', ev)) : ev = [] := by
  obtain ⟨-, -, -, rfl⟩ := mmioRead_ok h
  rfl

/-! ### the DMA channel window -/

def fieldOff (f : DmaField) : U16 := BitVec.ofNat 16 f.off

theorem fieldOff_toNat (f : DmaField) : (fieldOff f).toNat = f.off := by cases f <;> rfl

theorem cellAt_fieldOff (f : DmaField) : cellAt (fieldOff f).toNat = .dma (.field f) := by
  cases f <;> decide +kernel

theorem fieldOff_lt (f : DmaField) : (fieldOff f).toNat < mmioSize := by cases f <;> decide

/-- **Channel-window select**: a write of `k` to `0x1BE` stores `k` as the selected channel and
changes nothing else of the DMA engine. -/
theorem dma_window_select (b b' : Bus) (k : U16) (ev : List PEvent) (hw : b.mmioWrite 0x1BE k = .ok (b', ev)) :
    b'.per.dma = b.per.dma.activateChannel k := by
  have e : cellAt (0x1BE : U16).toNat = .dma .active := by decide +kernel
  rw [mmioWrite_eq _ _ _ (by decide), e] at hw
  simp [Bus.cellWrite, dmaCellWrite] at hw
  rw [← hw.1]

/-- **Reads see the selected channel's copy.** -/
theorem dma_window_read (b : Bus) (f : DmaField) (hk : b.per.dma.activeChannel.toNat < 8) :
    b.readVal (fieldOff f) = .ok (f.get b.per.dma.channels[b.per.dma.activeChannel.toNat]) := by
  rw [readVal_eq _ _ (fieldOff_lt f), cellAt_fieldOff]
  simp only [cellReadVal, dmaCellRead]
  exact Dma.getActive_eq _ _ hk

/-- **Writes change only the selected channel's copy**: a successful write of `v` to the window
register `f` replaces that register of channel `active_channel` and nothing else of the DMA
engine (no other channel, no other register of the same channel). -/
theorem dma_window_write (b b' : Bus) (f : DmaField) (v : U16) (ev : List PEvent)
    (hw : b.mmioWrite (fieldOff f) v = .ok (b', ev)) :
    ∃ hk : b.per.dma.activeChannel.toNat < 8,
      b'.per.dma = { b.per.dma with
        channels := b.per.dma.channels.set b.per.dma.activeChannel.toNat (f.set b.per.dma.channels[b.per.dma.activeChannel.toNat] v) } := by
  rw [mmioWrite_eq _ _ _ (fieldOff_lt f), cellAt_fieldOff] at hw
  obtain ⟨d, st, hd, rfl, -⟩ := cellWrite_dma (dc := .field f) nofun hw
  exact Dma.setActive_ok (dmaCellWrite_window hd rfl nofun).1

/-- **Independence of the eight copies** for any write into the window (whole-word registers,
the bit-field word `0x1DA`, and `0x1DE` — even when it starts a transfer): the registers of every
channel other than the selected one, the enable word and the select word are unchanged. -/
theorem dma_window_independent (b b' : Bus) (o v : U16) (dc : DmaCell) (ev : List PEvent)
    (hc : cellAt o.toNat = .dma dc) (hwin : dc ≠ .enable ∧ dc ≠ .active)
    (hw : b.mmioWrite o v = .ok (b', ev)) :
    b'.per.dma.enableChannel = b.per.dma.enableChannel ∧ b'.per.dma.activeChannel = b.per.dma.activeChannel ∧
    ∀ j : Fin 8, j.val ≠ b.per.dma.activeChannel.toNat → b'.per.dma.channels[j] = b.per.dma.channels[j] := by
  obtain ⟨ho, hw⟩ := mmioWrite_ok hw
  rw [hc] at hw
  by_cases hs : dc = .seox
  · subst hs
    obtain ⟨d, st, hd, rfl, -⟩ := cellWrite_dma (dc := .seox) nofun hw
    cases hd
    exact ⟨rfl, rfl, fun _ _ => rfl⟩
  · obtain ⟨ha, ch', -, e, -⟩ := cellWrite_window hw (by cases dc <;> simp_all [DmaCell.inWindow])
    rw [e]
    exact ⟨rfl, rfl, fun j hj => Vector.getElem_set_ne ha j.isLt (Ne.symm hj)⟩

/-- **Eight independent copies.**  Select channel `k`, write `v` to window register `f`, select
another channel `k'`, write `v'` to the same window register, select `k` again: the register
reads `v`. -/
theorem dma_window_eight_copies (b0 b1 b2 b3 b4 b5 : Bus) (f : DmaField) (k k' v v' : U16)
    (e1 e2 e3 e4 e5 : List PEvent) (hk : k.toNat < 8) (hk' : k'.toNat < 8) (hne : k ≠ k')
    (h1 : b0.mmioWrite 0x1BE k = .ok (b1, e1)) (h2 : b1.mmioWrite (fieldOff f) v = .ok (b2, e2))
    (h3 : b2.mmioWrite 0x1BE k' = .ok (b3, e3)) (h4 : b3.mmioWrite (fieldOff f) v' = .ok (b4, e4))
    (h5 : b4.mmioWrite 0x1BE k = .ok (b5, e5)) : b5.readVal (fieldOff f) = .ok v := by
  have d1 := dma_window_select _ _ _ _ h1
  obtain ⟨a2, d2⟩ := dma_window_write _ _ _ _ _ h2
  have d3 := dma_window_select _ _ _ _ h3
  obtain ⟨a4, d4⟩ := dma_window_write _ _ _ _ _ h4
  have d5 := dma_window_select _ _ _ _ h5
  have m7 : ∀ x : U16, x.toNat < 8 → x &&& 7 = x := by
    intro x hx
    apply BitVec.eq_of_toNat_eq
    rw [BitVec.toNat_and]
    show x.toNat &&& 7 = x.toNat
    have : x.toNat &&& 7 = x.toNat % 8 := Nat.and_two_pow_sub_one_eq_mod x.toNat 3
    omega
  have hk5 : b5.per.dma.activeChannel.toNat < 8 := by
    rw [d5]; simp only [Dma.activateChannel]; rw [m7 k hk]; exact hk
  rw [dma_window_read _ _ hk5]
  congr 1
  have hkk : k.toNat ≠ k'.toNat := fun e => hne (BitVec.eq_of_toNat_eq e)
  simp only [d5, d4, d3, d2, d1, Dma.activateChannel, m7 k hk, m7 k' hk']
  rw [Vector.getElem_set_ne _ _ (Ne.symm hkk)]
  simp only [Vector.getElem_set_self, DmaField.get_set]

/-! ### the two access paths -/

private theorem mirror_addr (o j : U16) (h : o.toNat < mmioSize) : (o + 0x800 * j) &&& 0x7FF = o := by
  apply BitVec.eq_of_toNat_eq
  rw [and_7ff_toNat, BitVec.toNat_add, BitVec.toNat_mul]
  have : (0x800 : U16).toNat = 0x800 := rfl
  rw [this]
  simp only [mmioSize] at h
  omega

/-- **Host mirrors (reads).**  `MemoryInterface::MMIORead` masks the address with `0x7FF`: every
`0x800`-aligned copy of an offset is the same register. -/
theorem mirror_host (b : Bus) (o j : U16) (h : o.toNat < mmioSize) :
    b.hostMmioRead (o + 0x800 * j) = b.mmioRead o := by
  unfold hostMmioRead; rw [mirror_addr o j h]

/-- **Host mirrors (writes).** -/
theorem mirror_host_write (b : Bus) (o j v : U16) (h : o.toNat < mmioSize) :
    b.hostMmioWrite (o + 0x800 * j) v = b.mmioWrite o v := by
  unfold hostMmioWrite; rw [mirror_addr o j h]

private theorem window_addr (u : Miu) (o : U16) (h : o.toNat < mmioSize) (hr : u.mmioBase.toNat + o.toNat ≤ 0xFFFF) :
    u.inMmioWindow (u.mmioBase + o) = true ∧ (u.mmioBase + o - u.mmioBase) &&& 0x7FF = o := by
  constructor
  · have e : (u.mmioBase + o).toNat = u.mmioBase.toNat + o.toNat := by
      rw [BitVec.toNat_add]; omega
    unfold Miu.inMmioWindow
    rw [e]
    simp only [mmioSize] at h ⊢
    simp; omega
  · rw [show u.mmioBase + o - u.mmioBase = o by bv_omega]
    simpa using mirror_addr o 0 h

/-- **DSP view (reads).**  With `z_page = 0`, a data read at `mmio_base + o` (inside the 16-bit
address space, no bypass) is `MMIORegion::Read(o)` and touches no memory. -/
theorem mirror_dsp (b : Bus) (o : U16) (h : o.toNat < mmioSize) (hr : b.miu.mmioBase.toNat + o.toNat ≤ 0xFFFF)
    (hz : b.miu.zPage = 0) :
    b.dataRead (b.miu.mmioBase + o) false =
      match b.mmioRead o with
      | .ok (v, b', ev) => .ok (v, b', ev, [])
      | .error e => .error e := by
  obtain ⟨h1, h2⟩ := window_addr b.miu o h hr
  rw [mmio_window_read b _ h1 hz, h2]
  rfl

/-- **DSP view (writes).** -/
theorem mirror_dsp_write (b : Bus) (o v : U16) (h : o.toNat < mmioSize) (hr : b.miu.mmioBase.toNat + o.toNat ≤ 0xFFFF)
    (hz : b.miu.zPage = 0) :
    b.dataWrite (b.miu.mmioBase + o) v false =
      match b.mmioWrite o v with
      | .ok (b', ev) => .ok (b', ev, [])
      | .error e => .error e := by
  obtain ⟨h1, h2⟩ := window_addr b.miu o h hr
  rw [mmio_window_write b _ v h1 hz, h2]
  rfl

/-! ### the other cell kinds -/

/-- Only the `RecvData` cells (`0xC2`, `0xC6`, `0xCA`) change state when read. -/
theorem read_pure_unless_fifo (b b' : Bus) (o r : U16) (ev : List PEvent) (h : b.mmioRead o = .ok (r, b', ev))
    (hk : kindAt o.toNat ≠ .fifo) : b' = b := by
  obtain ⟨ho, -, rfl, -⟩ := mmioRead_ok h
  unfold kindAt at hk
  cases hc : cellAt o.toNat with
  | apbp ac =>
    rw [hc] at hk
    cases ac <;> first | rfl | exact absurd rfl hk
  | _ => rfl

/-- Constant cells (`0x01A` chip detect, `0x18C`) read their constant in every state. -/
theorem const_reads (b : Bus) (o c : U16) (h : o.toNat < mmioSize) (hk : kindAt o.toNat = .const c) :
    b.readVal o = .ok c := by
  rw [readVal_eq _ _ h]
  unfold kindAt at hk
  generalize cellAt o.toNat = cell at hk ⊢
  cases cell with
  | store => simp [Cell.kind] at hk
  | const k => simp [Cell.kind] at hk; subst hk; rfl
  | timer _ x | apbp x | ahbm x | miu x | dma x | icu x | btdmp _ x =>
    cases x <;> simp [Cell.kind] at hk <;> (subst hk; rfl)

/-- The semaphore word `0x0CC` accumulates: after a write of `v` it reads the old value OR `v`. -/
theorem accum_reads_or (b b' : Bus) (v : U16) (ev : List PEvent) (hw : b.mmioWrite 0xCC v = .ok (b', ev)) :
    b'.readVal 0xCC = (b.readVal 0xCC).map (· ||| v) := by
  have e : cellAt (0xCC : U16).toNat = .apbp .semSet := by decide +kernel
  have hlt : (0xCC : U16).toNat < mmioSize := by decide
  rw [mmioWrite_eq _ _ _ hlt, e] at hw
  rw [readVal_eq _ _ hlt, readVal_eq _ _ hlt, e]
  cases hw
  rw [Periph.raiseN_fst]
  simp [cellReadVal, apbpCellWrite, apbpCellRead, Apbp.setSemaphore, Apbp.getSemaphore, Except.map]

/-- A write to a write-only cell does not change what the cell itself reads (0 for the trigger
cells, the never-written storage word for the audio FIFO cell). -/
theorem wo_read_unchanged (b b' : Bus) (o v : U16) (ev : List PEvent) (hk : kindAt o.toNat = .wo)
    (hw : b.mmioWrite o v = .ok (b', ev)) : b'.readVal o = b.readVal o := by
  obtain ⟨ho, hw⟩ := mmioWrite_ok hw
  rw [readVal_eq _ _ ho, readVal_eq _ _ ho]
  unfold kindAt at hk
  generalize cellAt o.toNat = cell at hk hw ⊢
  cases cell with
  | store | const _ => simp [Cell.kind] at hk
  | timer _ x | apbp x | ahbm x | miu x | dma x | icu x => cases x <;> simp [Cell.kind] at hk <;> rfl
  | btdmp i bc =>
    cases hw
    cases bc <;> simp [Cell.kind] at hk
    · simp [cellReadVal, btCellWrite, btCellRead]
    · rfl

/-- `Teakra::Impl::Reset` clears the interrupt controller, every MMIO storage word and the
interrupt-disable flags of the mailbox channels; only the host's external memory survives. -/
theorem reset_clears_icu_and_store (b : Bus) :
    b.reset.per.icu = {} ∧ b.reset.per.store = Vector.replicate mmioSize 0 ∧
    (∀ ch, b.reset.per.apbpFromCpu.getDisableInterrupt ch = 0) ∧
    b.reset.ext = b.ext := by
  refine ⟨rfl, rfl, ?_, rfl⟩
  intro ch
  simp [reset, Apbp.reset, Apbp.getDisableInterrupt, DataChannel.reset, DataChannel.getDisableInterrupt]

/-- The pinned upstream `Reset` left all three as they were (repaired in /repo; C17 owns the consequences). -/
theorem resetUpstream_keeps_icu_and_store (b : Bus) :
    b.resetUpstream.per.icu = b.per.icu ∧ b.resetUpstream.per.store = b.per.store ∧
    (∀ ch, b.resetUpstream.per.apbpFromCpu.getDisableInterrupt ch = b.per.apbpFromCpu.getDisableInterrupt ch) := by
  refine ⟨rfl, rfl, ?_⟩
  intro ch
  simp [resetUpstream, Apbp.getDisableInterrupt, DataChannel.getDisableInterrupt]

/-! ### non-vacuity -/

/-- On the reset state a write of 0x1234 to TIMER0_SCL (0x24) succeeds (so the hypotheses of
`rw_readback` / `frame` are satisfiable), reads back, and leaves TIMER0_SCH (0x26) alone. -/
example : (match ({} : Bus).mmioWrite 0x24 0x1234 with
    | .ok (b', ev) => b'.readVal 0x24 = .ok 0x1234 ∧ b'.readVal 0x26 = .ok 0 ∧ ev = []
    | .error _ => False) := ⟨rfl, rfl, rfl⟩

/-- The coupling list is not vacuous: a write to the interrupt trigger word changes the request
word (0x204 → 0x200). -/
example : (match ({} : Bus).mmioWrite 0x204 0x4000 with
    | .ok (b', _) => b'.readVal 0x200 = .ok 0x4000 ∧ ({} : Bus).readVal 0x200 = .ok 0
    | .error _ => False) := ⟨rfl, rfl⟩

/-- A write that fails: TIMER0_CFG with count mode 7 and the restart bit (`ASSERT(count_mode < 4)`). -/
example : ({} : Bus).mmioWrite 0x20 0xFFFF = .error .assert := rfl

end Bus
end Teakra
