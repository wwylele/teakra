import Proofs.C03
import Proofs.Lemmas.Exec
import TeakraModel.Exec
/-!
# C03 at the level of instruction handlers

The value-level theorems of `Proofs/C03.lean` composed with the handler transcriptions for the
accumulator-to-accumulator add / subtract / compare forms: what ends up in the destination, which
flags are set, that compare forms change flags only, and that nothing else in the machine changes.

Every handler of the family is `GetAcc`, `AddSub`, `SetAccFlag`, `SatAndSetAccAndFlag` in some order;
each of these is run once here (`run_…`) and leaves a named update of the register file
(`setAccOf`, `withAddSubFlags`, `withAccFlags`, `satSetRegs`), whose fields the `…_frame` lemmas read.
-/
namespace Teakra.Interp
open Teakra Exec ExecLemmas Alu

def accOf (r : Regs) : Bool × Fin 2 → U64
  | (false, i) => r.a[i]
  | (true, i) => r.b[i]

def setAccOf (r : Regs) (k : Bool × Fin 2) (v : U64) : Regs :=
  match k with
  | (false, i) => { r with a := r.a.set i v }
  | (true, i) => { r with b := r.b.set i v }

def withRegs (c : Core) (r : Regs) : Core := { c with regs := r }

def withAddSubFlags (r : Regs) (o : AddSubOut) : Regs :=
  { r with fc0 := o.fc0, fv := o.fv, fvl := if o.fv != 0 then 1 else r.fvl }

def withAccFlags (r : Regs) (v : U64) : Regs :=
  { r with fz := (accFlags v).fz, fm := (accFlags v).fm, fe := (accFlags v).fe, fn := (accFlags v).fn }

def withFlm1 (r : Regs) : Regs := { r with flm := 1 }

/-! ## the primitives, run once -/

theorem run_getAcc_eq (name : RegName) (c : Core) :
    (getAcc name).run c = match accIndex name with
      | some k => .ok (accOf c.regs k, c)
      | none => .error (.abort .assert) := by
  unfold getAcc
  rw [run_bind, run_getRegs, except_ok_bind]
  cases accIndex name with
  | none => rfl
  | some k => obtain ⟨isB, i⟩ := k; cases isB <;> rfl

theorem run_setAcc_eq (name : RegName) (v : U64) (c : Core) :
    (setAcc name v).run c = match accIndex name with
      | some k => .ok ((), { c with regs := setAccOf c.regs k v })
      | none => .error (.abort .assert) := by
  unfold setAcc
  cases accIndex name with
  | none => rfl
  | some k => obtain ⟨isB, i⟩ := k; cases isB <;> rfl

theorem run_getAcc (name : RegName) (k : Bool × Fin 2) (h : accIndex name = some k) (c : Core) :
    (getAcc name).run c = .ok (accOf c.regs k, c) := by
  rw [run_getAcc_eq, h]

theorem run_setAcc (name : RegName) (k : Bool × Fin 2) (h : accIndex name = some k) (v : U64) (c : Core) :
    (setAcc name v).run c = .ok ((), { c with regs := setAccOf c.regs k v }) := by
  rw [run_setAcc_eq, h]

theorem run_setAccFlag (v : U64) (c : Core) :
    (setAccFlag v).run c = .ok ((), { c with regs := { c.regs with
      fz := (accFlags v).fz, fm := (accFlags v).fm, fe := (accFlags v).fe, fn := (accFlags v).fn } }) := rfl

theorem run_addSub (a b : U64) (sub : Bool) (c : Core) :
    (Interp.addSub a b sub).run c = .ok ((Alu.addSub a b sub).result, { c with regs := { c.regs with
      fc0 := (Alu.addSub a b sub).fc0, fv := (Alu.addSub a b sub).fv,
      fvl := if (Alu.addSub a b sub).fv != 0 then 1 else c.regs.fvl } }) := rfl

/-- `run_setAccFlag`, `run_addSub` with the update named: rewriting with these keeps the 243-field record
closed. -/
theorem run_setAccFlag_regs (v : U64) (c : Core) :
    (setAccFlag v).run c = .ok ((), { c with regs := withAccFlags c.regs v }) := rfl

theorem run_addSub_regs (a b : U64) (sub : Bool) (c : Core) :
    (Interp.addSub a b sub).run c =
      .ok ((Alu.addSub a b sub).result, { c with regs := withAddSubFlags c.regs (Alu.addSub a b sub) }) := rfl

theorem run_saturateAcc (v : U64) (c : Core) :
    (saturateAcc v).run c =
      .ok ((saturate v).1, { c with regs := if (saturate v).2 then withFlm1 c.regs else c.regs }) := by
  unfold saturateAcc
  rcases saturate v with ⟨w, _ | _⟩ <;> rfl

/-! ## what the updates leave in which field -/

theorem setAccOf_frame (r : Regs) (k : Bool × Fin 2) (v : U64) :
    (setAccOf r k v).fc0 = r.fc0 ∧ (setAccOf r k v).fv = r.fv ∧ (setAccOf r k v).fvl = r.fvl ∧
    (setAccOf r k v).fz = r.fz ∧ (setAccOf r k v).fm = r.fm ∧ (setAccOf r k v).fe = r.fe ∧
    (setAccOf r k v).fn = r.fn ∧ (setAccOf r k v).flm = r.flm := by
  obtain ⟨isB, i⟩ := k
  cases isB <;> exact ⟨rfl, rfl, rfl, rfl, rfl, rfl, rfl, rfl⟩

theorem accOf_setAccOf (r : Regs) (k : Bool × Fin 2) (v : U64) : accOf (setAccOf r k v) k = v := by
  obtain ⟨isB, i⟩ := k
  cases isB <;> exact Vector.getElem_set_self _

theorem accOf_setAccOf_ne (r : Regs) (k k' : Bool × Fin 2) (v : U64) (h : k ≠ k') :
    accOf (setAccOf r k v) k' = accOf r k' := by
  obtain ⟨isB, i⟩ := k
  obtain ⟨isB', i'⟩ := k'
  cases isB <;> cases isB' <;> simp only [accOf, setAccOf]
  all_goals
    have : i ≠ i' := fun hh => h (by rw [hh])
    exact Vector.getElem_set_ne _ _ (by omega)

theorem withAccFlags_frame (r : Regs) (v : U64) :
    (withAccFlags r v).fz = (accFlags v).fz ∧ (withAccFlags r v).fm = (accFlags v).fm ∧
    (withAccFlags r v).fe = (accFlags v).fe ∧ (withAccFlags r v).fn = (accFlags v).fn ∧
    (withAccFlags r v).fc0 = r.fc0 ∧ (withAccFlags r v).fv = r.fv ∧ (withAccFlags r v).fvl = r.fvl ∧
    (withAccFlags r v).flm = r.flm ∧ (withAccFlags r v).sata = r.sata ∧ (withAccFlags r v).s = r.s :=
  ⟨rfl, rfl, rfl, rfl, rfl, rfl, rfl, rfl, rfl, rfl⟩

theorem withAddSubFlags_frame (r : Regs) (o : AddSubOut) :
    (withAddSubFlags r o).fc0 = o.fc0 ∧ (withAddSubFlags r o).fv = o.fv ∧
    (withAddSubFlags r o).fvl = (if o.fv != 0 then 1 else r.fvl) ∧
    (withAddSubFlags r o).sata = r.sata ∧ (withAddSubFlags r o).flm = r.flm :=
  ⟨rfl, rfl, rfl, rfl, rfl⟩

theorem withFlm1_frame (r : Regs) :
    (withFlm1 r).flm = 1 ∧ (withFlm1 r).fc0 = r.fc0 ∧ (withFlm1 r).fv = r.fv ∧ (withFlm1 r).fvl = r.fvl ∧
    (withFlm1 r).fz = r.fz ∧ (withFlm1 r).fm = r.fm ∧ (withFlm1 r).fe = r.fe ∧ (withFlm1 r).fn = r.fn :=
  ⟨rfl, rfl, rfl, rfl, rfl, rfl, rfl, rfl⟩

/-! ## `SatAndSetAccAndFlag`, `SetAccAndFlag` -/

def satSetRegs (r : Regs) (k : Bool × Fin 2) (v : U64) : Regs :=
  let r1 : Regs := { r with fz := (accFlags v).fz, fm := (accFlags v).fm, fe := (accFlags v).fe, fn := (accFlags v).fn }
  if r1.sata == 0 then
    let r2 : Regs := if (saturate v).2 then { r1 with flm := 1 } else r1
    setAccOf r2 k (saturate v).1
  else setAccOf r1 k v

theorem satSetRegs_eq (r : Regs) (k : Bool × Fin 2) (v : U64) :
    satSetRegs r k v =
      if r.sata == 0 then
        setAccOf (if (saturate v).2 then withFlm1 (withAccFlags r v) else withAccFlags r v) k (saturate v).1
      else setAccOf (withAccFlags r v) k v := rfl

theorem run_satAndSetAccAndFlag (name : RegName) (k : Bool × Fin 2) (h : accIndex name = some k) (v : U64)
    (c : Core) :
    (satAndSetAccAndFlag name v).run c = .ok ((), { c with regs := satSetRegs c.regs k v }) := by
  unfold satAndSetAccAndFlag
  rw [satSetRegs_eq]
  simp only [run_bind, run_setAccFlag_regs, except_ok_bind, run_getRegs, run_ite, run_pure, run_saturateAcc,
    run_setAcc _ k h, withAccFlags_frame]
  cases c.regs.sata == 0 <;> rfl

def setFlagRegs (r : Regs) (k : Bool × Fin 2) (v : U64) : Regs := setAccOf (withAccFlags r v) k v

theorem run_setAccAndFlag (name : RegName) (k : Bool × Fin 2) (h : accIndex name = some k) (v : U64)
    (c : Core) : (setAccAndFlag name v).run c = .ok ((), withRegs c (setFlagRegs c.regs k v)) := by
  unfold setAccAndFlag setFlagRegs withRegs
  simp only [run_bind, run_setAccFlag_regs, except_ok_bind, run_setAcc _ k h]

theorem satSetRegs_fits (r : Regs) (k : Bool × Fin 2) (v : U64) (h : (v != signExtend 32 v) = false) :
    satSetRegs r k v = setFlagRegs r k v := by
  rw [satSetRegs_eq, saturate_of_fits v h]
  split <;> rfl

/-- `SatAndSetAccAndFlag` writes an accumulator, the four value flags and `flm`.  Of what it leaves alone, the
fields the ALU and multiplier theorems read. -/
theorem satSetRegs_keeps (r : Regs) (k : Bool × Fin 2) (v : U64) :
    let F (R : Regs) := (R.fc0, R.fv, R.fvl, R.x, R.y, R.hwm, R.p, R.pe, R.ps, R.sv)
    F (satSetRegs r k v) = F r := by
  -- one update at a time, the register file under it a variable: a field read through nested updates is slow to check
  intro F
  have h1 : ∀ (R : Regs) (s : U64), F (setAccOf R k s) = F R := by
    intro R s; obtain ⟨isB, i⟩ := k; cases isB <;> rfl
  have h2 : ∀ R : Regs, F (withFlm1 R) = F R := fun _ => rfl
  have h3 : F (withAccFlags r v) = F r := rfl
  rw [satSetRegs_eq]
  (repeat' split) <;> simp only [h1, h2, h3]

theorem satSetRegs_frame (r : Regs) (k : Bool × Fin 2) (v : U64) :
    (satSetRegs r k v).fc0 = r.fc0 ∧ (satSetRegs r k v).fv = r.fv ∧ (satSetRegs r k v).fvl = r.fvl := by
  have h := satSetRegs_keeps r k v
  simp only [Prod.mk.injEq] at h
  exact ⟨h.1, h.2.1, h.2.2.1⟩

/-- **Flags come from the unsaturated result; the value is saturated on write.**  For a well-formed
40-bit result `v`: with saturation-on-write enabled (`sata = 0`) the destination receives the
nearest 32-bit bound when `v` does not fit and the limit flag is set exactly then; zero / minus /
extension / normalized flags are those of `v` itself in every case. -/
theorem satSetRegs_spec (r : Regs) (k : Bool × Fin 2) (v : U64) (hv : AccWF v) :
    let r' := satSetRegs r k v
    I40 (accOf r' k) = (if r.sata = 0 then max (-2 ^ 31) (min (2 ^ 31 - 1) (I40 v)) else I40 v) ∧
    r'.fz = b2u (decide (I40 v = 0)) ∧ r'.fm = b2u (decide (I40 v < 0)) ∧
    r'.fe = b2u (decide (I40 v < -2 ^ 31 ∨ 2 ^ 31 ≤ I40 v)) ∧
    r'.flm = (if r.sata = 0 ∧ (I40 v < -2 ^ 31 ∨ 2 ^ 31 ≤ I40 v) then 1 else r.flm) := by
  obtain ⟨hz, hm, he, -⟩ := accFlags_spec v hv
  obtain ⟨hs1, hs2, -⟩ := saturate_spec v hv
  simp only [satSetRegs_eq, beq_iff_eq]
  by_cases hsata : r.sata = 0
  · simp only [hsata, if_true, true_and, setAccOf_frame, accOf_setAccOf, hs1, hs2, decide_eq_true_eq]
    by_cases hf : I40 v < -2 ^ 31 ∨ 2 ^ 31 ≤ I40 v
    · simp only [if_pos hf]; exact ⟨hz, hm, he, rfl⟩
    · simp only [if_neg hf]; exact ⟨hz, hm, he, rfl⟩
  · simp only [hsata, if_false, false_and, setAccOf_frame, accOf_setAccOf]
    exact ⟨trivial, hz, hm, he, rfl⟩

/-- The overflow latch, read on the proposition the flag stands for. -/
theorem latch_b2u (p : Prop) [Decidable p] (x : U16) :
    (if b2u (decide p) != 0 then (1 : U16) else x) = if p then 1 else x := by
  by_cases h : p <;> simp only [h, decide_true, decide_false, if_true, if_false] <;> rfl

theorem b2u_decide_ne_zero (p : Prop) [Decidable p] : b2u (decide p) ≠ 0 ↔ p := by
  by_cases h : p <;> simp only [h, decide_true, decide_false, iff_true, iff_false] <;> decide

/-! ## `AddSub` followed by `SatAndSetAccAndFlag` -/

def addSubWrite (r : Regs) (k : Bool × Fin 2) (a b : U64) (sub : Bool) : Regs :=
  satSetRegs (withAddSubFlags r (Alu.addSub a b sub)) k (Alu.addSub a b sub).result

theorem withAddSubFlags_spec (r : Regs) (a b : U64) (sub : Bool) :
    let exact : Int := if sub then I40 a - I40 b else I40 a + I40 b
    let r' := withAddSubFlags r (Alu.addSub a b sub)
    r'.fc0 = b2u (if sub then decide (U40 a < U40 b) else decide (2 ^ 40 ≤ U40 a + U40 b)) ∧
    r'.fv = b2u (decide (exact < -2 ^ 39 ∨ 2 ^ 39 ≤ exact)) ∧
    r'.fvl = (if exact < -2 ^ 39 ∨ 2 ^ 39 ≤ exact then 1 else r.fvl) := by
  refine ⟨addSub_carry a b sub, addSub_overflow a b sub, ?_⟩
  show (if (Alu.addSub a b sub).fv != 0 then (1 : U16) else r.fvl) = _
  rw [addSub_overflow]
  exact latch_b2u _ _

/-- **Exact add / subtract of two 40-bit operands with flags and saturating write** (the common
tail of inc, dec, rnd, the accumulate step of the multiply–accumulate forms, …): the destination
receives the exact sum or difference wrapped to 40 bits and, when saturation-on-write is enabled,
clamped to 32 bits with the limit flag set exactly when it did not fit; carry is the carry / borrow
out of bit 39, overflow says the exact result does not fit 40 bits and is latched, and zero / minus
/ extension are the flags of the unsaturated 40-bit result. -/
theorem addSubWrite_spec (r : Regs) (k : Bool × Fin 2) (a b : U64) (sub : Bool) (exact : Int)
    (hex : exact = if sub then I40 a - I40 b else I40 a + I40 b) :
    let r' := addSubWrite r k a b sub
    I40 (accOf r' k) = (if r.sata = 0 then max (-2 ^ 31) (min (2 ^ 31 - 1) (wrap40 exact)) else wrap40 exact) ∧
    r'.fc0 = b2u (if sub then decide (U40 a < U40 b) else decide (2 ^ 40 ≤ U40 a + U40 b)) ∧
    r'.fv = b2u (decide (exact < -2 ^ 39 ∨ 2 ^ 39 ≤ exact)) ∧
    r'.fvl = (if exact < -2 ^ 39 ∨ 2 ^ 39 ≤ exact then 1 else r.fvl) ∧
    r'.fz = b2u (decide (wrap40 exact = 0)) ∧ r'.fm = b2u (decide (wrap40 exact < 0)) ∧
    r'.fe = b2u (decide (wrap40 exact < -2 ^ 31 ∨ 2 ^ 31 ≤ wrap40 exact)) ∧
    r'.flm = (if r.sata = 0 ∧ (wrap40 exact < -2 ^ 31 ∨ 2 ^ 31 ≤ wrap40 exact) then 1 else r.flm) := by
  subst hex
  obtain ⟨h1, h2, h3, h4, h5⟩ := satSetRegs_spec (withAddSubFlags r (Alu.addSub a b sub)) k _ (addSub_wf a b sub)
  obtain ⟨f1, f2, f3⟩ := satSetRegs_frame (withAddSubFlags r (Alu.addSub a b sub)) k (Alu.addSub a b sub).result
  obtain ⟨c1, c2, c3⟩ := withAddSubFlags_spec r a b sub
  rw [addSub_value] at h1 h2 h3 h4 h5
  exact ⟨h1, f1.trans c1, f2.trans c2, f3.trans c3, h2, h3, h4, h5⟩

/-! ## accumulator ± accumulator forms -/

def abKey (a : Nat) : Bool × Fin 2 := (decide (a < 2), ⟨a % 2, Nat.mod_lt _ (by decide)⟩)

private theorem accIndex_Ab (a : Nat) (h : a < 4) : accIndex (Ab.name a) = some (abKey a) := by
  match a, h with
  | 0, _ => rfl
  | 1, _ => rfl
  | 2, _ => rfl
  | 3, _ => rfl

theorem _root_.Teakra.accIndex_Ax (i : Fin 2) : accIndex (Ax.name i.val) = some (false, i) := by
  match i with
  | ⟨0, _⟩ => rfl
  | ⟨1, _⟩ => rfl

theorem _root_.Teakra.accIndex_Bx (i : Fin 2) : accIndex (Bx.name i.val) = some (true, i) := by
  match i with
  | ⟨0, _⟩ => rfl
  | ⟨1, _⟩ => rfl

def addSubRegs (r : Regs) (ka kb : Bool × Fin 2) (sub : Bool) : Regs :=
  let o := Alu.addSub (accOf r kb) (accOf r ka) sub
  satSetRegs (withAddSubFlags r o) kb o.result

/-- `add Ab, Bx` / `sub Ab, Bx`: the handler is exactly "exact 40-bit add/sub, flags, saturating
write" and touches nothing but the register file. -/
theorem add_Ab_Bx_run (a b : Nat) (ha : a < 4) (hb : b < 2) (c : Core) :
    (Exec.add_Ab_Bx a b).run c = .ok ((), withRegs c (addSubRegs c.regs (abKey a) (true, ⟨b, hb⟩) false)) := by
  unfold Exec.add_Ab_Bx addSubRegs withRegs
  simp only [run_bind, run_getAcc _ _ (accIndex_Ab a ha), run_getAcc _ _ (accIndex_Bx ⟨b, hb⟩), except_ok_bind,
    run_addSub_regs, run_satAndSetAccAndFlag _ _ (accIndex_Bx ⟨b, hb⟩)]

theorem sub_Ab_Bx_run (a b : Nat) (ha : a < 4) (hb : b < 2) (c : Core) :
    (Exec.sub_Ab_Bx a b).run c = .ok ((), withRegs c (addSubRegs c.regs (abKey a) (true, ⟨b, hb⟩) true)) := by
  unfold Exec.sub_Ab_Bx addSubRegs withRegs
  simp only [run_bind, run_getAcc _ _ (accIndex_Ab a ha), run_getAcc _ _ (accIndex_Bx ⟨b, hb⟩), except_ok_bind,
    run_addSub_regs, run_satAndSetAccAndFlag _ _ (accIndex_Bx ⟨b, hb⟩)]

/-- **Exactness of the add/sub instruction.**  The destination receives the exact 40-bit sum or
difference (saturated to 32 bits when saturation-on-write is enabled), carry is the carry/borrow out
of bit 39, overflow says the exact result does not fit 40 bits and is latched, and zero / minus /
extension flags are those of the unsaturated 40-bit result. -/
theorem addSubRegs_spec (r : Regs) (ka kb : Bool × Fin 2) (sub : Bool) :
    let exact : Int := if sub then I40 (accOf r kb) - I40 (accOf r ka) else I40 (accOf r kb) + I40 (accOf r ka)
    let r' := addSubRegs r ka kb sub
    I40 (accOf r' kb) = (if r.sata = 0 then max (-2 ^ 31) (min (2 ^ 31 - 1) (wrap40 exact)) else wrap40 exact) ∧
    r'.fc0 = b2u (if sub then decide (U40 (accOf r kb) < U40 (accOf r ka))
                  else decide (2 ^ 40 ≤ U40 (accOf r kb) + U40 (accOf r ka))) ∧
    r'.fv = b2u (decide (exact < -2 ^ 39 ∨ 2 ^ 39 ≤ exact)) ∧
    r'.fvl = (if exact < -2 ^ 39 ∨ 2 ^ 39 ≤ exact then 1 else r.fvl) ∧
    r'.fz = b2u (decide (wrap40 exact = 0)) ∧ r'.fm = b2u (decide (wrap40 exact < 0)) ∧
    r'.fe = b2u (decide (wrap40 exact < -2 ^ 31 ∨ 2 ^ 31 ≤ wrap40 exact)) := by
  obtain ⟨h1, h2, h3, h4, h5, h6, h7, -⟩ := addSubWrite_spec r kb (accOf r kb) (accOf r ka) sub _ rfl
  exact ⟨h1, h2, h3, h4, h5, h6, h7⟩

/-- **Compare forms change flags only.**  `cmp Ax, Bx` leaves every accumulator, every other register
and memory as they were; only carry, overflow (latched), zero, minus, extension and normalized
flags are written — with the flags of the exact 40-bit difference. -/
theorem cmp_Ax_Bx_run (a b : Nat) (ha : a < 2) (hb : b < 2) (c : Core) :
    (Exec.cmp_Ax_Bx a b).run c = .ok ((), withRegs c
      (withAccFlags (withAddSubFlags c.regs (Alu.addSub (accOf c.regs (true, ⟨b, hb⟩)) (accOf c.regs (false, ⟨a, ha⟩)) true))
        (Alu.addSub (accOf c.regs (true, ⟨b, hb⟩)) (accOf c.regs (false, ⟨a, ha⟩)) true).result)) := by
  unfold Exec.cmp_Ax_Bx withRegs
  simp only [run_bind, run_getAcc _ _ (accIndex_Ax ⟨a, ha⟩), run_getAcc _ _ (accIndex_Bx ⟨b, hb⟩), except_ok_bind,
    run_addSub_regs, run_setAccFlag_regs]

/-- The register file `cmp_Ax_Bx_run` leaves has every accumulator as it was. -/
theorem cmp_keeps_accumulators (r : Regs) (o : AddSubOut) (v : U64) (k : Bool × Fin 2) :
    accOf (withAccFlags (withAddSubFlags r o) v) k = accOf r k := by
  obtain ⟨isB, i⟩ := k; cases isB <;> rfl

end Teakra.Interp
