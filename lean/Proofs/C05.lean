import TeakraModel.Asm
import TeakraModel.CDo
import Proofs.C02
/-!
# C05 — assembly text and machine code correspond one-to-one

Three layers, and what each rests on:

1. **The assembler's parser** (`src/parser.cpp`, model `TeakraModel/Asm.lean`).  Theorems
   `parse_eq_firstWith`, `parse_build_first`, `parse_roundtrip`, `parse_invalid`, `build_assert_iff` hold
   for *every* iteration sequence of (opcode, token list, expansion flag), i.e. for every possible
   disassembler: assembling the token list of a renderable opcode returns the least opcode that prints
   that token list, with the status of that opcode; what no renderable opcode prints is `Invalid`; the
   `ASSERT` in `GenerateParser` fires exactly when a later opcode with the same text lacks a bit of the
   first one.
2. **The disassembler text** (`src/disassembler.cpp`) enters as an arbitrary token function (`Disasm`).
   What the property needs from it is the predicate `SameTextOnlyUnused`: two first words print the same
   token list only if they decode to the same decode-table entry with the same operand values and differ
   only in bits the table declares `Unused`.  That is **not** a theorem about `disassembler.cpp`:
   `checks/c05.py` establishes it on every run by enumerating `Disassembler::GetTokenList` of the real code
   for all 65536 first words and grouping by text.  `assemble_disasm` is the end-to-end statement
   conditional on it (and on `NeedExpansion` answering as the decode table does); `assemble_disasm_text`
   adds that every disassembler that is a function of the decoded entry and operand values prints the
   assembled opcode identically for every second word.  (The disassembler model translated from
   `disassembler.cpp`, `Proofs/C05Dis.lean`, gives the other direction: unused bits never change the text.)
3. **The C binding** (`src/disassembler_c.cpp`, model `TeakraModel/CDo.lean`): `cDo_bounds` for the
   intended behaviour, and proved counterexamples for the code as it was found.
-/
namespace Teakra.Asm
open Teakra.Decode

/-! ## The trie as a finite map from token lists to `(opcode, expansion)` -/

def Node.payload (n : Node) (toks : List String) : Option (BitVec 16 × Bool) :=
  match n.find toks with
  | some c => if c.isEnd then some (c.opcode, c.expansion) else none
  | none => none

theorem parse_eq_payload (r : Node) (toks : List String) :
    parse r toks = match r.payload toks with
      | some p => { status := statusOf p.2, opcode := p.1 }
      | none => {} := by
  unfold parse Node.payload
  cases r.find toks with
  | none => rfl
  | some c => cases h : c.isEnd <;> simp [h]

theorem lookup_setChild (cs : List (String × Node)) (k k' : String) (c : Node) :
    (setChild cs k c).lookup k' = if k' = k then some c else cs.lookup k' := by
  induction cs with
  | nil => simp [setChild, List.lookup]; split <;> simp_all
  | cons hd tl ih =>
    obtain ⟨k1, c1⟩ := hd
    simp only [setChild]
    split
    · rename_i h; have : k = k1 := by simpa using h
      subst this; simp only [List.lookup]; split <;> simp_all
    · rename_i h; simp only [List.lookup, ih]
      have : ¬ k = k1 := by simpa using h
      split <;> split <;> simp_all

@[simp] theorem Node.isEnd_mk (e o x cs) : (Node.mk e o x cs).isEnd = e := rfl
@[simp] theorem Node.opcode_mk (e o x cs) : (Node.mk e o x cs).opcode = o := rfl
@[simp] theorem Node.expansion_mk (e o x cs) : (Node.mk e o x cs).expansion = x := rfl
@[simp] theorem Node.children_mk (e o x cs) : (Node.mk e o x cs).children = cs := rfl

theorem payload_nil (n : Node) :
    n.payload [] = if n.isEnd then some (n.opcode, n.expansion) else none := rfl

theorem payload_empty (toks : List String) : Node.empty.payload toks = none := by
  cases toks <;> rfl

theorem payload_cons (n : Node) (k : String) (ks : List String) :
    n.payload (k :: ks) = ((n.children.lookup k).getD Node.empty).payload ks := by
  cases h : n.children.lookup k with
  | none => rw [Option.getD_none, payload_empty]; simp [Node.payload, Node.find, h]
  | some c => simp [Node.payload, Node.find, h]

/-- `o` may follow the first opcode `p.1` printed with the same text (the loop's `ASSERT`). -/
abbrev Fits (p : BitVec 16 × Bool) (o : BitVec 16) : Prop := p.1 &&& ~~~o = 0#16

theorem insertAt_spec (o : BitVec 16) (x : Bool) : ∀ (ks : List String) (n : Node),
    match insertAt o x n ks with
    | .ok n' => (∀ p, n.payload ks = some p → Fits p o) ∧
        ∀ ks', n'.payload ks' = if ks' = ks then (n.payload ks).or (some (o, x)) else n.payload ks'
    | .error e => e = .assert ∧ ∃ p, n.payload ks = some p ∧ ¬ Fits p o
  | [], .mk e o' x' cs => by
    cases e
    · refine ⟨by simp [payload_nil], fun ks' => ?_⟩
      cases ks' with
      | nil => simp [payload_nil]
      | cons k r => simp [payload_cons]
    · by_cases hz : o' &&& ~~~o = 0#16
      · simp only [insertAt, finish, if_true, hz]
        refine ⟨by simp [payload_nil, Fits, hz], fun ks' => ?_⟩
        split
        · subst_vars; simp [payload_nil]
        · rfl
      · simp only [insertAt, finish, if_true, hz, if_false]
        exact ⟨trivial, (o', x'), by simp [payload_nil], hz⟩
  | k :: ks, n => by
    have ih := insertAt_spec o x ks ((n.children.lookup k).getD Node.empty)
    simp only [insertAt]
    cases hc : insertAt o x ((n.children.lookup k).getD Node.empty) ks with
    | error e => rw [hc] at ih; simpa only [payload_cons] using ih
    | ok c' =>
      rw [hc] at ih
      simp only [payload_cons] at ih ⊢
      refine ⟨ih.1, fun ks' => ?_⟩
      cases ks' with
      | nil => cases n; rfl
      | cons k' r =>
        simp only [payload_cons, Node.children_mk, lookup_setChild, List.cons.injEq]
        by_cases hk : k' = k
        · subst hk; simp only [if_true, Option.getD_some, ih.2 r, true_and]
        · simp only [hk, if_false, false_and]

/-! ## The build loop: the first entry printing a text owns its slot -/

theorem firstWith_cons (en : Entry) (es : List Entry) (toks : List String) :
    firstWith (en :: es) toks = if en.renderable = true ∧ en.tokens = toks then some en else firstWith es toks := by
  unfold firstWith
  rw [List.find?_cons]
  cases hb : (en.renderable && en.tokens == toks) <;> simp_all

theorem firstWith_some {es : List Entry} {toks : List String} {f : Entry} (h : firstWith es toks = some f) :
    f ∈ es ∧ f.renderable = true ∧ f.tokens = toks := by
  have := List.find?_some h
  simp only [Bool.and_eq_true, beq_iff_eq] at this
  exact ⟨List.mem_of_find?_eq_some h, this⟩

def firstPayload (es : List Entry) (toks : List String) : Option (BitVec 16 × Bool) :=
  (firstWith es toks).map fun f => (f.opcode, f.expansion)

theorem firstPayload_cons (en : Entry) (es : List Entry) (toks : List String) :
    firstPayload (en :: es) toks = (firstPayload [en] toks).or (firstPayload es toks) := by
  simp only [firstPayload, firstWith_cons]
  split <;> simp [firstWith]

theorem step_spec (n : Node) (en : Entry) :
    match step n en with
    | .ok n' => (en.renderable = true → ∀ p, n.payload en.tokens = some p → Fits p en.opcode) ∧
        ∀ toks, n'.payload toks = (n.payload toks).or (firstPayload [en] toks)
    | .error e => e = .assert ∧ en.renderable = true ∧ ∃ p, n.payload en.tokens = some p ∧ ¬ Fits p en.opcode := by
  unfold step
  by_cases hr : en.renderable = true
  · have h := insertAt_spec en.opcode en.expansion en.tokens n
    rw [if_pos hr]
    cases hi : insertAt en.opcode en.expansion n en.tokens with
    | error e => rw [hi] at h; exact ⟨h.1, hr, h.2⟩
    | ok n' =>
      rw [hi] at h
      refine ⟨fun _ => h.1, fun toks => ?_⟩
      rw [h.2, firstPayload, firstWith_cons]
      by_cases ht : toks = en.tokens
      · subst ht; simp [hr]
      · simp [ht, Ne.symm ht, firstWith]
  · rw [if_neg hr]
    refine ⟨fun h => absurd h hr, fun toks => ?_⟩
    simp [firstPayload, hr, firstWith]

/-- No entry of `es` fails the `ASSERT`: it fits the first occupant of its slot.  `σ` is the map of the trie
the loop has built before it comes to `es` (`fun _ => none` for the whole loop), so the first occupant is
`σ`'s if there is one and else the first entry of `es` with that text. -/
def Good (σ : List String → Option (BitVec 16 × Bool)) (es : List Entry) : Prop :=
  ∀ en ∈ es, en.renderable = true → ∀ p, (σ en.tokens).or (firstPayload es en.tokens) = some p → Fits p en.opcode

theorem good_cons (σ : List String → Option (BitVec 16 × Bool)) (en : Entry) (es : List Entry) :
    Good σ (en :: es) ↔ (en.renderable = true → ∀ p, σ en.tokens = some p → Fits p en.opcode) ∧
      Good (fun t => (σ t).or (firstPayload [en] t)) es := by
  simp only [Good, List.mem_cons, forall_eq_or_imp, Option.or_assoc, ← firstPayload_cons]
  refine and_congr_left fun _ => forall_congr' fun hr => ⟨fun h p hp => h p (by simp [hp]), fun h p hp => ?_⟩
  cases hs : σ en.tokens with
  | some q => exact h p (by rw [hs] at hp ⊢; simpa using hp)
  | none =>
    -- the slot was free: `en` itself is its first occupant
    rw [hs, Option.none_or, firstPayload, firstWith_cons, if_pos ⟨hr, rfl⟩] at hp
    cases hp; exact BitVec.and_not_self _

theorem buildFrom_spec : ∀ (es : List Entry) (n : Node),
    match buildFrom n es with
    | .ok n' => Good n.payload es ∧ ∀ toks, n'.payload toks = (n.payload toks).or (firstPayload es toks)
    | .error e => e = .assert ∧ ¬ Good n.payload es
  | [], n => ⟨fun _ h => absurd h (by simp), fun toks => by simp [firstPayload, firstWith]⟩
  | en :: es, n => by
    have hs := step_spec n en
    rw [good_cons]
    unfold buildFrom
    cases h1 : step n en with
    | error e =>
      rw [h1] at hs
      obtain ⟨he, hr, p, hp, hz⟩ := hs
      exact ⟨he, fun hg => hz (hg.1 hr p hp)⟩
    | ok n1 =>
      rw [h1] at hs
      have ih := buildFrom_spec es n1
      rw [show n1.payload = fun t => (n.payload t).or (firstPayload [en] t) from funext hs.2] at ih
      dsimp only
      cases h2 : buildFrom n1 es with
      | error e => rw [h2] at ih; exact ⟨ih.1, fun hg => ih.2 hg.2⟩
      | ok n' =>
        rw [h2] at ih
        refine ⟨⟨hs.1, ih.1⟩, fun toks => ?_⟩
        rw [ih.2 toks, Option.or_assoc, ← firstPayload_cons]

theorem build_spec (es : List Entry) :
    match buildParser es with
    | .ok t => Good (fun _ => none) es ∧ ∀ toks, t.payload toks = firstPayload es toks
    | .error e => e = .assert ∧ ¬ Good (fun _ => none) es := by
  have h := buildFrom_spec es Node.empty
  simpa only [funext payload_empty, Option.none_or, buildParser] using h

/-! ## Property theorems about the parser (for every possible disassembler) -/

theorem parse_eq_firstWith {es : List Entry} {t : Node} (hb : buildParser es = .ok t)
    (toks : List String) :
    parse t toks = match firstWith es toks with
      | some f => { status := statusOf f.expansion, opcode := f.opcode }
      | none => {} := by
  have h := build_spec es
  rw [hb] at h
  rw [parse_eq_payload, h.2, firstPayload]
  cases firstWith es toks <;> rfl

theorem firstWith_of_mem {es : List Entry} {en : Entry} (hm : en ∈ es) (hr : en.renderable = true) :
    ∃ f, firstWith es en.tokens = some f := by
  cases h : firstWith es en.tokens with
  | some f => exact ⟨f, rfl⟩
  | none => simpa [hr] using List.find?_eq_none.1 h en hm

theorem parse_build_first {es : List Entry} {t : Node} {en : Entry} (hb : buildParser es = .ok t)
    (hm : en ∈ es) (hr : en.renderable = true) :
    ∃ f, firstWith es en.tokens = some f ∧ f ∈ es ∧ f.renderable = true ∧ f.tokens = en.tokens ∧
      parse t en.tokens = { status := statusOf f.expansion, opcode := f.opcode } := by
  obtain ⟨f, hf⟩ := firstWith_of_mem hm hr
  exact ⟨f, hf, (firstWith_some hf).1, (firstWith_some hf).2.1, (firstWith_some hf).2.2,
    by rw [parse_eq_firstWith hb, hf]⟩

theorem parse_roundtrip {es : List Entry} {t : Node} (hb : buildParser es = .ok t)
    {toks : List String} (hv : (parse t toks).status ≠ .invalid) :
    ∃ f ∈ es, f.renderable = true ∧ f.tokens = toks ∧ (parse t toks).opcode = f.opcode ∧
      (parse t toks).status = statusOf f.expansion := by
  rw [parse_eq_firstWith hb] at hv ⊢
  cases hf : firstWith es toks with
  | none => rw [hf] at hv; exact absurd rfl hv
  | some f => exact ⟨f, (firstWith_some hf).1, (firstWith_some hf).2.1, (firstWith_some hf).2.2, rfl, rfl⟩

theorem parse_invalid {es : List Entry} {t : Node} (hb : buildParser es = .ok t) {toks : List String}
    (hn : ∀ en ∈ es, en.renderable = true → en.tokens ≠ toks) :
    parse t toks = { status := .invalid, opcode := 0 } := by
  rw [parse_eq_firstWith hb]
  cases hf : firstWith es toks with
  | none => rfl
  | some f => exact absurd (firstWith_some hf).2.2 (hn f (firstWith_some hf).1 (firstWith_some hf).2.1)

theorem build_ok_or_assert (es : List Entry) :
    (∃ t, buildParser es = .ok t) ∨ buildParser es = .error .assert := by
  have h := build_spec es
  cases hb : buildParser es with
  | ok t => exact .inl ⟨t, rfl⟩
  | error e => rw [hb] at h; exact .inr (by rw [h.1])

theorem build_assert_iff (es : List Entry) :
    buildParser es = .error .assert ↔
      ∃ en ∈ es, en.renderable = true ∧ ∃ f, firstWith es en.tokens = some f ∧
        f.opcode &&& ~~~en.opcode ≠ 0#16 := by
  have h := build_spec es
  constructor
  · intro hb
    rw [hb] at h
    refine Classical.byContradiction fun hn => h.2 fun en hm hr p hp => Classical.byContradiction fun hz => hn ?_
    rw [Option.none_or, firstPayload, Option.map_eq_some_iff] at hp
    obtain ⟨f, hf, rfl⟩ := hp
    exact ⟨en, hm, hr, f, hf, hz⟩
  · rintro ⟨en, hm, hr, f, hf, hz⟩
    rcases build_ok_or_assert es with ⟨t, hb⟩ | hb
    · rw [hb] at h
      exact absurd (h.1 en hm hr (f.opcode, f.expansion) (by simp [firstPayload, hf])) hz
    · exact hb

/-! ## The real iteration order: opcodes `0 … 0xFFFF` increasing -/

def entryOf (d : Disasm) (o : BitVec 16) : Entry :=
  { opcode := o, tokens := d.tokens o 0, expansion := d.expansion o }

theorem mem_entriesOf (d : Disasm) (o : BitVec 16) : entryOf d o ∈ entriesOf d :=
  List.mem_map.2 ⟨o.toNat, List.mem_range.2 o.isLt, by rw [BitVec.ofNat_toNat, BitVec.setWidth_eq]; rfl⟩

theorem firstWith_entriesOf {d : Disasm} {toks : List String} {f : Entry}
    (h : firstWith (entriesOf d) toks = some f) :
    ∃ m : BitVec 16, f = entryOf d m ∧
      ∀ m' : BitVec 16, renderable (d.tokens m' 0) = true → d.tokens m' 0 = toks → m.toNat ≤ m'.toNat := by
  unfold firstWith entriesOf at h
  rw [List.find?_map, Option.map_eq_some_iff] at h
  obtain ⟨i, hi, rfl⟩ := h
  obtain ⟨-, hi, hmin⟩ := List.find?_range_eq_some.1 hi
  refine ⟨BitVec.ofNat 16 i, rfl, fun m' hr' ht' => Nat.le_of_not_lt fun hlt => ?_⟩
  rw [BitVec.toNat_ofNat, Nat.mod_eq_of_lt (List.mem_range.1 hi)] at hlt
  have := hmin m'.toNat hlt
  rw [Function.comp, BitVec.ofNat_toNat, BitVec.setWidth_eq] at this
  exact absurd this (by simpa [Entry.renderable] using And.intro hr' ht')

/-- **`Parse(GetTokenList(w))` for the real loop order**: the numerically least opcode `m` printing the
same token list as `w`, with `m`'s `NeedExpansion` as the status. -/
theorem parse_generate_least {d : Disasm} {t : Node} (hb : generateParser d = .ok t) (w : BitVec 16)
    (hr : renderable (d.tokens w 0) = true) :
    ∃ m : BitVec 16, parse t (d.tokens w 0) = { status := statusOf (d.expansion m), opcode := m } ∧
      d.tokens m 0 = d.tokens w 0 ∧ m.toNat ≤ w.toNat ∧
      ∀ m' : BitVec 16, d.tokens m' 0 = d.tokens w 0 → m.toNat ≤ m'.toNat := by
  obtain ⟨f, hf, _, _, ht, hp⟩ := parse_build_first (en := entryOf d w) hb (mem_entriesOf d w) hr
  obtain ⟨m, rfl, hmin⟩ := firstWith_entriesOf hf
  exact ⟨m, hp, ht, hmin w hr rfl, fun m' ht' => hmin m' (by rw [ht']; exact hr) ht'⟩

/-! ## The end-to-end statement, conditional on the finite fact about the disassembler text -/

/-- **Two opcodes print the same text only if they differ in unused bits** — the one fact about
`disassembler.cpp` the property needs: whenever a renderable first word `w` and a first word `m` print the
same token list (second word 0, as `GenerateParser` calls it), both decode to the same decode-table entry
`p`, the visitor receives the same operand values, and every bit in which they differ is declared
`Unused` in `p`.

For the real disassembler this is a finite statement about 65536 first words.  It is **not proved** about
`disassembler.cpp`; `checks/c05.py` establishes it on every run by complete enumeration of the real
`Disassembler::GetTokenList` over all 65536 words against the translated decode table (C02). -/
def SameTextOnlyUnused (d : Disasm) : Prop :=
  ∀ w m : BitVec 16, renderable (d.tokens w 0) = true → d.tokens m 0 = d.tokens w 0 →
    ∃ p, decode w = some p ∧ decode m = some p ∧ p.extract m 0 = p.extract w 0 ∧
      ∀ i, i < 16 → m.getLsbD i ≠ w.getLsbD i → i ∈ p.unusedBits

/-- `Disassembler::NeedExpansion` answers from the decode table (`Decode<Disassembler>(opcode).NeedExpansion()`;
compared with the table for all 65536 words by C02's `consumers` op and again by `checks/c05.py`). -/
def NeedFromTable (d : Disasm) : Prop := ∀ w, d.expansion w = needExpansion w

/-- The text is a function of what `Decode<Disassembler>(opcode).call(dsm, opcode, expansion)` hands the
visitor: the selected entry and the extracted operand values (structural in `GetTokenList`; the extraction
is tied to the table by C02's exhaustive `dec` run). -/
def FactorsThroughDecode (d : Disasm) : Prop :=
  ∃ (render : Pat → List Nat → List String) (undef : List String), ∀ w e,
    d.tokens w e = match decode w with
      | some p => render p (p.extract w e)
      | none => undef

theorem extractN_indep (p : Pat) {n m : Nat} (h : p.extractN n 0 = p.extractN m 0) (e : Nat) :
    p.extractN n e = p.extractN m e := by
  rw [extractN_eq, extractN_eq, List.map_inj_left] at h ⊢
  intro o ho
  have := h o ho
  unfold Operand.val at this ⊢
  split
  · rfl
  · split
    · rfl
    · simpa only [*, if_false] using this

/-- **Assembling what the disassembler printed gives back the same instruction** (conditional on the
finite fact `SameTextOnlyUnused`, which the check establishes by complete enumeration of the real code):
for every first word `w` the disassembler can render, `Parse(GetTokenList(w))` is a valid opcode `m ≤ w`
with the same need for a second word as `w`, printing the same token list, decoding to the same
decode-table entry `p`, handing the visitor the same operand values for **every** second word `e`, and
differing from `w` only in bits `p` declares `Unused`.  The interpreter's effect and the disassembler's
text are functions of (entry, operand values) (C02 `unused_irrelevant`, `unused_same_decode`), hence
execution and disassembly of `m` are identical to those of `w`. -/
theorem assemble_disasm {d : Disasm} {t : Node} (hS : SameTextOnlyUnused d) (hN : NeedFromTable d)
    (hb : generateParser d = .ok t) (w : BitVec 16) (hr : renderable (d.tokens w 0) = true) :
    ∃ (m : BitVec 16) (p : Pat),
      parse t (d.tokens w 0) = { status := statusOf (needExpansion w), opcode := m } ∧
      m.toNat ≤ w.toNat ∧ d.tokens m 0 = d.tokens w 0 ∧
      decode w = some p ∧ decode m = some p ∧ needExpansion m = needExpansion w ∧
      (∀ e : BitVec 16, p.extract m e = p.extract w e) ∧
      (∀ i, i < 16 → m.getLsbD i ≠ w.getLsbD i → i ∈ p.unusedBits) := by
  obtain ⟨m, hp, htok, hle, _⟩ := parse_generate_least hb w hr
  obtain ⟨p, hdw, hdm, hex, hun⟩ := hS w m hr htok
  have hne : needExpansion m = needExpansion w := by simp [needExpansion, hdw, hdm]
  refine ⟨m, p, ?_, hle, htok, hdw, hdm, hne, ?_, hun⟩
  · rw [hp, hN m, hne]
  · intro e
    exact extractN_indep p hex e.toNat

/-- The disassembly of the assembled opcode is that of `w` **for every second word**, for every disassembler
whose text is a function of the decoded entry and the operand values. -/
theorem assemble_disasm_text {d : Disasm} {t : Node} (hS : SameTextOnlyUnused d) (hN : NeedFromTable d)
    (hF : FactorsThroughDecode d) (hb : generateParser d = .ok t) (w : BitVec 16)
    (hr : renderable (d.tokens w 0) = true) (e : BitVec 16) :
    d.tokens (parse t (d.tokens w 0)).opcode e = d.tokens w e := by
  obtain ⟨m, p, hp, _, _, hdw, hdm, _, hex, _⟩ := assemble_disasm hS hN hb w hr
  obtain ⟨render, undef, hF⟩ := hF
  rw [hp]
  simp only [hF, hdw, hdm, hex e]

/-- `build_assert_iff` for the real loop order: the `ASSERT` of `GenerateParser` fires exactly when the least
opcode `m` printing some renderable text has a bit that another opcode `w` with that text lacks.  A failed
superset check is thus always between two opcodes with the same text, which under `SameTextOnlyUnused` differ
in unused bits only: the `ASSERT` is not the safety net against two instructions sharing a text. -/
theorem generate_assert_iff (d : Disasm) :
    generateParser d = .error .assert ↔
      ∃ w m : BitVec 16, renderable (d.tokens w 0) = true ∧ d.tokens m 0 = d.tokens w 0 ∧
        (∀ m' : BitVec 16, d.tokens m' 0 = d.tokens w 0 → m.toNat ≤ m'.toNat) ∧ m &&& ~~~w ≠ 0#16 := by
  unfold generateParser
  rw [build_assert_iff]
  constructor
  · rintro ⟨en, hm, hr, f, hf, hz⟩
    obtain ⟨m, rfl, hmin⟩ := firstWith_entriesOf hf
    obtain ⟨n, _, rfl⟩ := List.mem_map.1 hm
    exact ⟨BitVec.ofNat 16 n, m, hr, (firstWith_some hf).2.2, fun m' ht => hmin m' (by rw [ht]; exact hr) ht, hz⟩
  · rintro ⟨w, m, hr, ht, hmin, hz⟩
    obtain ⟨f, hf⟩ := firstWith_of_mem (mem_entriesOf d w) (show (entryOf d w).renderable = true from hr)
    obtain ⟨m0, rfl, hmin0⟩ := firstWith_entriesOf hf
    obtain rfl : m0 = m := BitVec.eq_of_toNat_eq
      (Nat.le_antisymm (hmin0 m (by rw [ht]; exact hr) ht) (hmin m0 (firstWith_some hf).2.2))
    exact ⟨entryOf d w, mem_entriesOf d w, hr, entryOf d m0, hf, hz⟩

/-! ## Non-vacuity -/

/-- `nop` is printed by 0 and by 1 (1 ⊇ 0 bitwise), 2 is not renderable, 4 needs a second word: the build
succeeds, `nop` assembles to the least opcode, the `[ERROR]` text and unknown text are invalid. -/
example :
    (match buildParser [⟨0, ["nop"], false⟩, ⟨1, ["nop"], false⟩, ⟨2, ["mov", "[ERROR]52"], false⟩,
        ⟨4, ["br", "0x00000000", "always"], true⟩] with
      | .ok t => [parse t ["nop"], parse t ["br", "0x00000000", "always"], parse t ["mov", "[ERROR]52"],
          parse t ["br"], parse t []]
      | .error _ => []) =
    [⟨.valid, 0⟩, ⟨.validWithExpansion, 4⟩, ⟨.invalid, 0⟩, ⟨.invalid, 0⟩, ⟨.invalid, 0⟩] := by decide +kernel

/-- The `ASSERT` fires when a later opcode with the same text lacks a bit of the first one (2 then 1) … -/
example : buildParser [⟨2, ["x"], false⟩, ⟨1, ["x"], false⟩] = .error .assert := rfl

/-- … and not when it is a bit-superset (2 then 3). -/
example : ∃ t, buildParser [⟨2, ["x"], false⟩, ⟨3, ["x"], false⟩] = .ok t ∧ parse t ["x"] = ⟨.valid, 2⟩ :=
  ⟨_, rfl, rfl⟩

/-- The hypotheses of `assemble_disasm` are jointly satisfiable by a disassembler that renders every defined
opcode and marks every undefined one `[ERROR]` (here with injective text); `0x4180` (`br`) is renderable,
`0x0021` (undefined) is not. -/
example : ∃ d : Disasm, SameTextOnlyUnused d ∧ NeedFromTable d ∧
    renderable (d.tokens 0x4180#16 0) = true ∧ renderable (d.tokens 0x0021#16 0) = false := by
  let tk : BitVec 16 → List String := fun w =>
    if (decode w).isSome then "op" :: List.replicate w.toNat "i" else ["[ERROR]"]
  have hop : ∀ n : Nat, renderable ("op" :: List.replicate n "i") = true := fun n => by
    simp [renderable, List.any_replicate, show isErrorToken "op" = false by decide +kernel,
      show isErrorToken "i" = false by decide +kernel]
  have hdef : ∀ w, renderable (tk w) = true →
      (decode w).isSome = true ∧ tk w = "op" :: List.replicate w.toNat "i" := fun w h => by
    by_cases hd : (decode w).isSome = true
    · exact ⟨hd, if_pos hd⟩
    · rw [show tk w = ["[ERROR]"] from if_neg hd] at h; exact absurd h (by decide +kernel)
  refine ⟨{ tokens := fun w _ => tk w, expansion := needExpansion }, fun w m hr ht => ?_, fun _ => rfl, ?_, ?_⟩
  · obtain ⟨hd, hw⟩ := hdef w hr
    obtain ⟨-, hm⟩ := hdef m (by rw [show tk m = tk w from ht]; exact hr)
    obtain rfl : m = w := BitVec.eq_of_toNat_eq (by
      simpa using congrArg List.length (hm.symm.trans ((show tk m = tk w from ht).trans hw)))
    obtain ⟨p, hp⟩ := Option.isSome_iff_exists.1 hd
    exact ⟨p, hp, hp, rfl, fun i _ h => absurd rfl h⟩
  · show renderable (tk 0x4180#16) = true
    rw [show tk 0x4180#16 = _ from if_pos (by decide +kernel)]; exact hop _
  · show renderable (tk 0x0021#16) = false
    rw [show tk 0x0021#16 = _ from if_neg (by decide +kernel)]; decide +kernel

/-- The conclusion of `SameTextOnlyUnused` on a real pair: `0x5F48`/`0x5F49` (`bkreprst [sp]`, printed
identically by the real disassembler) decode to the same entry, hand over the same operands and differ only
in bit 0, which that entry declares unused — and a pair it must reject: `0x0000` (`nop`) / `0x0001` differ
in a bit that is not unused in either entry. -/
example : decode 0x5F49#16 = decode 0x5F48#16 ∧
    ((decode 0x5F48#16).map fun p => (p.extract 0x5F48#16 0 == p.extract 0x5F49#16 0,
      (List.range 16).all fun i => (0x5F48#16).getLsbD i == (0x5F49#16).getLsbD i || p.unusedBits.contains i))
      = some (true, true) ∧
    decode 0x0000#16 ≠ decode 0x0001#16 := by decide +kernel

end Teakra.Asm

/-! ## The C binding -/
namespace Teakra.CDo

theorem store_pre (m : Mem) (i : Nat) (v : UInt8) : (m.store i v).pre = m.pre := by
  unfold Mem.store; split <;> rfl

theorem store_length (m : Mem) (i : Nat) (v : UInt8) : (m.store i v).buf.length = m.buf.length := by
  unfold Mem.store; split <;> simp

theorem store_oob (m : Mem) (i : Nat) (v : UInt8) (h : i < m.buf.length) : (m.store i v).oob = m.oob := by
  simp [Mem.store, h]

theorem store_getElem? (m : Mem) (i j : Nat) (v : UInt8) :
    (m.store i v).buf[j]? = if j = i ∧ i < m.buf.length then some v else m.buf[j]? := by
  unfold Mem.store
  by_cases h : i < m.buf.length
  · simp only [h, if_true, and_true, List.getElem?_set, eq_comm (a := i)]
  · simp [h]

theorem copyLoop_spec (lim : Nat) : ∀ (rest : List UInt8) (i : Nat) (m : Mem),
    (copyLoop lim rest i m).1 = i + min (lim - i) rest.length ∧
    (copyLoop lim rest i m).2.pre = m.pre ∧
    (copyLoop lim rest i m).2.buf.length = m.buf.length ∧
    (lim ≤ m.buf.length → (copyLoop lim rest i m).2.oob = m.oob) ∧
    ∀ j, (copyLoop lim rest i m).2.buf[j]? =
      if i ≤ j ∧ j < lim ∧ j < i + rest.length ∧ j < m.buf.length then rest[j - i]? else m.buf[j]?
  | [], i, m => ⟨by simp [copyLoop], rfl, rfl, fun _ => rfl, fun j => by
      rw [if_neg]; · rfl
      rw [List.length_nil]; omega⟩
  | c :: cs, i, m => by
    unfold copyLoop
    by_cases hlt : i < lim
    · obtain ⟨h1, h2, h3, h4, h5⟩ := copyLoop_spec lim cs (i + 1) (m.store i c)
      rw [if_pos hlt, List.length_cons]
      refine ⟨by rw [h1]; omega, by rw [h2, store_pre], by rw [h3, store_length], fun hf => ?_, fun j => ?_⟩
      · rw [h4 (by rw [store_length]; exact hf), store_oob _ _ _ (by omega)]
      · rw [h5, store_length, store_getElem?]
        rcases Nat.lt_trichotomy j i with hj | rfl | hj
        · rw [if_neg (by omega), if_neg (by omega), if_neg (by omega)]
        · rw [if_neg (by omega), Nat.sub_self]
          exact ite_cond_congr (propext (by omega))
        · rw [show j - i = (j - (i + 1)) + 1 by omega, List.getElem?_cons_succ,
            if_neg (show ¬(j = i ∧ _) by omega)]
          exact ite_cond_congr (propext (by omega))
    · rw [if_neg hlt]
      refine ⟨by omega, rfl, rfl, fun _ => rfl, fun j => ?_⟩
      rw [if_neg]; omega

theorem sizeSubOne_pos {dstlen : Nat} (h0 : dstlen ≠ 0) (hsz : dstlen < 2 ^ 64) :
    sizeSubOne dstlen = dstlen - 1 := by
  unfold sizeSubOne
  rw [show dstlen + (2 ^ 64 - 1) = (dstlen - 1) + 2 ^ 64 by omega, Nat.add_mod_right, Nat.mod_eq_of_lt (by omega)]

theorem cDoFixed_pos (m : Mem) (dstlen : Nat) (text : List UInt8) (h0 : dstlen ≠ 0) :
    cDoFixed m false dstlen text =
      (text.length, (copyLoop (dstlen - 1) text 0 m).2.store (copyLoop (dstlen - 1) text 0 m).1 0) := by
  have hb : (dstlen == 0) = false := by simpa using h0
  simp only [cDoFixed, hb, Bool.false_or, Bool.false_eq_true, if_false]

theorem cDo_pos (m : Mem) (dstlen : Nat) (text : List UInt8) (h0 : dstlen ≠ 0) (hsz : dstlen < 2 ^ 64) :
    cDo m false dstlen text = (text.length, (copyLoop (dstlen - 1) text 0 m).2.store (dstlen - 1) 0) := by
  simp only [cDo, Bool.false_eq_true, if_false, h0, sizeSubOne_pos h0 hsz]

/-- **The C binding never writes more than the caller's buffer size and always NUL-terminates**
(intended `Teakra_Disasm_Do`, `cDoFixed`): for a caller buffer of `dstlen` bytes at `dst` (the first
`dstlen` bytes of `m.buf`; whatever lies around it is arbitrary) and any text,
* the return value is the full text length;
* nothing below `dst` and nothing at index `≥ dstlen` changes, and no store leaves the modelled memory —
  every write goes to an index `< dstlen`;
* if `dstlen > 0`, the byte at index `min(len, dstlen-1)` is NUL and the bytes before it are the text's
  prefix: the buffer holds a proper C string, NUL directly after the copied text;
* `dstlen = 0` writes nothing at all, and neither does `dst = NULL`. -/
theorem cDo_bounds (m : Mem) (dstlen : Nat) (text : List UInt8) (hbuf : dstlen ≤ m.buf.length) :
    (cDoFixed m false dstlen text).1 = text.length ∧
    (cDoFixed m false dstlen text).2.oob = m.oob ∧
    (cDoFixed m false dstlen text).2.pre = m.pre ∧
    (cDoFixed m false dstlen text).2.buf.length = m.buf.length ∧
    (∀ j, dstlen ≤ j → (cDoFixed m false dstlen text).2.buf[j]? = m.buf[j]?) ∧
    (0 < dstlen →
      (cDoFixed m false dstlen text).2.buf[min text.length (dstlen - 1)]? = some 0 ∧
      ∀ j, j < min text.length (dstlen - 1) → (cDoFixed m false dstlen text).2.buf[j]? = text[j]?) ∧
    (dstlen = 0 → (cDoFixed m false dstlen text).2 = m) ∧
    (cDoFixed m true dstlen text) = (text.length, m) := by
  have hnull : cDoFixed m true dstlen text = (text.length, m) := by simp [cDoFixed]
  by_cases h0 : dstlen = 0
  · subst h0
    rw [show cDoFixed m false 0 text = (text.length, m) by simp [cDoFixed]]
    exact ⟨rfl, rfl, rfl, rfl, fun _ _ => rfl, fun h => absurd h (by omega), fun _ => rfl, hnull⟩
  · obtain ⟨h1, h2, h3, h4, h5⟩ := copyLoop_spec (dstlen - 1) text 0 m
    have hn : (copyLoop (dstlen - 1) text 0 m).1 = min text.length (dstlen - 1) := by rw [h1]; omega
    rw [cDoFixed_pos m dstlen text h0, hn]
    dsimp only
    refine ⟨rfl, ?_, ?_, ?_, fun j hj => ?_, fun _ => ⟨?_, fun j hj => ?_⟩, fun h => absurd h h0, hnull⟩
    · rw [store_oob _ _ _ (by omega), h4 (by omega)]
    · rw [store_pre, h2]
    · rw [store_length, h3]
    · rw [store_getElem?, h5, if_neg (by omega), if_neg (by omega)]
    · rw [store_getElem?, if_pos ⟨rfl, by omega⟩]
    · rw [store_getElem?, h5, if_neg (by omega), if_pos (by omega), Nat.sub_zero]

/-- **Counterexample 1 for the code as found** (`cDo`): with `dstlen = 0` — a caller that owns no byte at
all — and any non-empty text, the byte *below* `dst` is overwritten with NUL (`dst[dstlen-1]` with
`dstlen-1 = 2^64-1`) and `dst[0]`, which is outside the caller's (empty) buffer, receives the first
character (the loop bound `i < dstlen-1` is `i < 2^64-1`). -/
theorem cDo_zero_out_of_bounds (below : UInt8) (pre : List UInt8) (b : UInt8) (bs : List UInt8)
    (c : UInt8) (cs : List UInt8) (oob : Bool) :
    (cDo ⟨below :: pre, b :: bs, oob⟩ false 0 (c :: cs)).2.pre = 0 :: pre ∧
    (cDo ⟨below :: pre, b :: bs, oob⟩ false 0 (c :: cs)).2.buf[0]? = some c := by
  obtain ⟨_, h2, _, _, h5⟩ := copyLoop_spec (sizeSubOne 0) (c :: cs) 0 ⟨below :: pre, b :: bs, oob⟩
  have hp : 0 < (copyLoop (sizeSubOne 0) (c :: cs) 0 ⟨below :: pre, b :: bs, oob⟩).2.pre.length := by
    rw [h2]; exact Nat.succ_pos _
  simp only [cDo, Bool.false_eq_true, if_false, if_true, Mem.storeBelow, if_pos hp]
  rw [h2, h5]
  exact ⟨rfl, if_pos ⟨Nat.le_refl _, by decide, by simp, Nat.succ_pos _⟩⟩

/-- **Counterexample 2 for the code as found**: whenever the buffer is more than one byte longer than the
text (`len + 1 < dstlen`), the NUL goes to the *last* byte `dst[dstlen-1]`; the byte directly after the
copied text keeps whatever the caller's buffer held, as do all bytes up to `dstlen-2` — the result is a
C string only if the caller had zeroed the buffer. -/
theorem cDo_no_nul_after_text (m : Mem) (dstlen : Nat) (text : List UInt8)
    (hbuf : dstlen ≤ m.buf.length) (hsz : dstlen < 2 ^ 64) (hlong : text.length + 1 < dstlen) :
    (∀ j, text.length ≤ j → j < dstlen - 1 → (cDo m false dstlen text).2.buf[j]? = m.buf[j]?) ∧
    (cDo m false dstlen text).2.buf[dstlen - 1]? = some 0 := by
  obtain ⟨_, _, h3, _, h5⟩ := copyLoop_spec (dstlen - 1) text 0 m
  rw [cDo_pos m dstlen text (by omega) hsz]
  dsimp only
  refine ⟨fun j hj1 hj2 => ?_, ?_⟩
  · rw [store_getElem?, h5, if_neg (by omega), if_neg (by omega)]
  · rw [store_getElem?, if_pos ⟨rfl, by omega⟩]

/-- The two versions agree exactly when the text fills the buffer (`0 < dstlen ≤ len + 1`): the defect is
invisible to callers that always truncate. -/
theorem cDo_eq_fixed_of_tight (m : Mem) (dstlen : Nat) (text : List UInt8)
    (hbuf : dstlen ≤ m.buf.length) (hsz : dstlen < 2 ^ 64) (hpos : 0 < dstlen)
    (htight : dstlen ≤ text.length + 1) :
    cDo m false dstlen text = cDoFixed m false dstlen text := by
  rw [cDoFixed_pos m dstlen text (by omega), cDo_pos m dstlen text (by omega) hsz,
    (copyLoop_spec (dstlen - 1) text 0 m).1]
  congr 2; omega

/-- Concrete replay of counterexample 1: `dstlen = 0`, text `"nop"`, one canary byte below and four above. -/
example : cDo ⟨[0xAA], [0xAA, 0xAA, 0xAA, 0xAA], false⟩ false 0 [0x6e, 0x6f, 0x70] =
    (3, ⟨[0x00], [0x6e, 0x6f, 0x70, 0xAA], false⟩) := by decide

/-- Concrete replay of counterexample 2: `dstlen = 8`, text `"nop"`: `6e 6f 70 aa aa aa aa 00`. -/
example : cDo ⟨[], List.replicate 8 0xAA, false⟩ false 8 [0x6e, 0x6f, 0x70] =
    (3, ⟨[], [0x6e, 0x6f, 0x70, 0xAA, 0xAA, 0xAA, 0xAA, 0x00], false⟩) := by decide

/-- The intended behaviour on the same inputs, and on a truncating buffer. -/
example : cDoFixed ⟨[0xAA], [0xAA, 0xAA, 0xAA, 0xAA], false⟩ false 0 [0x6e, 0x6f, 0x70] =
      (3, ⟨[0xAA], [0xAA, 0xAA, 0xAA, 0xAA], false⟩) ∧
    cDoFixed ⟨[], List.replicate 8 0xAA, false⟩ false 8 [0x6e, 0x6f, 0x70] =
      (3, ⟨[], [0x6e, 0x6f, 0x70, 0x00, 0xAA, 0xAA, 0xAA, 0xAA], false⟩) ∧
    cDoFixed ⟨[], List.replicate 4 0xAA, false⟩ false 3 [0x6e, 0x6f, 0x70] =
      (3, ⟨[], [0x6e, 0x6f, 0x00, 0xAA], false⟩) := by decide

end Teakra.CDo
