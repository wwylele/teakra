import Proofs.C09.Frame
/-!
# C09 — save then restore round-trips the frame and the flags

Word level: decoding the four words `StoreBlockRepeat` writes gives back `{start, end, lc}` and the
`lp` flag, provided the addresses fit in 18 bits and `lp` is 0 or 1 (the only values the core ever
stores).  Register level: the pure register parts of restore after store are the identity on
`bkrep, bcn, lp`.
-/
namespace Teakra
open Exec ExecLemmas Interp Sys

theorem split16 (x : U32) : ((x &&& 0xFFFF).setWidth 16).setWidth 32 ||| ((x >>> 16) <<< 16) = x := by
  have hm : ∀ i, (x &&& 0xFFFF).getLsbD i = (x.getLsbD i && decide (i < 16)) := getLsbD_and_lowMask 16 x
  apply BitVec.eq_of_getLsbD_eq
  intro i hi
  simp only [BitVec.getLsbD_or, BitVec.getLsbD_setWidth, hm, BitVec.getLsbD_shiftLeft,
    BitVec.getLsbD_ushiftRight]
  by_cases h16 : i < 16
  · simp [h16, hi]
  · have e : 16 + (i - 16) = i := by omega
    simp [h16, hi, e]

/-- The flag word as a function of `lp` and the two high parts: 2 · 4 · 4 cases, which
`packSmall_spec` decides one by one. -/
def packSmall (lp : U16) (sh eh : U32) : U16 :=
  let flag : U16 := lp <<< 15
  let flag : U16 := (flag.setWidth 32 ||| sh).setWidth 16
  (flag.setWidth 32 ||| (eh <<< 8)).setWidth 16

theorem packFlag_eq (lp : U16) (f : BkFrame) : packFlag lp f = packSmall lp (f.start >>> 16) (f.end_ >>> 16) := rfl

theorem small4 (x : U32) (h : x.toNat < 4) : x = 0 ∨ x = 1 ∨ x = 2 ∨ x = 3 := by
  have : x.toNat = 0 ∨ x.toNat = 1 ∨ x.toNat = 2 ∨ x.toNat = 3 := by omega
  rcases this with h | h | h | h
  · exact .inl (BitVec.eq_of_toNat_eq h)
  · exact .inr (.inl (BitVec.eq_of_toNat_eq h))
  · exact .inr (.inr (.inl (BitVec.eq_of_toNat_eq h)))
  · exact .inr (.inr (.inr (BitVec.eq_of_toNat_eq h)))

theorem hi_lt (x : U32) (h : x.toNat < 2 ^ 18) : (x >>> 16).toNat < 4 := by
  rw [BitVec.toNat_ushiftRight, Nat.shiftRight_eq_div_pow]; omega

theorem packSmall_spec (lp : U16) (sh eh : U32) (hlp : lp = 0 ∨ lp = 1) (hs : sh.toNat < 4) (he : eh.toNat < 4) :
    validOf (packSmall lp sh eh) = lp ∧
    ((packSmall lp sh eh).setWidth 32 : U32) &&& 3 = sh ∧
    (((packSmall lp sh eh).setWidth 32 : U32) >>> 8) &&& 3 = eh := by
  rcases hlp with rfl | rfl <;> rcases small4 sh hs with rfl | rfl | rfl | rfl <;>
    rcases small4 eh he with rfl | rfl | rfl | rfl <;> decide

/-- **Round trip on the word level**: the four words `StoreBlockRepeat` writes for the frame `f`
and the flag `lp` decode (as `RestoreBlockRepeat` decodes them) to `f` and `lp`. -/
theorem restore_store_words (lp : U16) (f : BkFrame) (hlp : lp = 0 ∨ lp = 1)
    (hs : f.start.toNat < 2 ^ 18) (he : f.end_.toNat < 2 ^ 18) :
    frameOf ((packFlag lp f).setWidth 32) (low16 f.end_) (low16 f.start) f.lc = f ∧
    validOf (packFlag lp f) = lp := by
  obtain ⟨h1, h2, h3⟩ := packSmall_spec lp (f.start >>> 16) (f.end_ >>> 16) hlp (hi_lt _ hs) (hi_lt _ he)
  rw [packFlag_eq]
  refine ⟨?_, h1⟩
  unfold frameOf low16
  rw [h2, h3, split16, split16]

theorem restoreFrame_pack (r : Regs) (lp : U16) (f : BkFrame) (hlp : lp = 0 ∨ lp = 1)
    (hs : f.start.toNat < 2 ^ 18) (he : f.end_.toNat < 2 ^ 18) :
    restoreFrame r (packFlag lp f) (low16 f.end_) (low16 f.start) f.lc = { r with bkrep := r.bkrep.set 0 f } := by
  have h := (restore_store_words lp f hlp hs he).1
  unfold restoreFrame
  unfold frameOf at h
  unfold unpackStart unpackEnd
  rw [h]

/-- The register part of `RestoreBlockRepeat` (everything but the address register), as a
function of the four words read: the three functions of `restoreBlockRepeat_run` (`FrameRun.lean`)
in its order.  No theorem ties `restorePure` to the handler. -/
def restorePure (r : Regs) (flag e s lc : U16) : Except Stop Regs :=
  match restoreShift r with
  | .error x => .error x
  | .ok r0 =>
    match restoreValid r0 flag with
    | .error x => .error x
    | .ok r1 => .ok (restoreFrame r1 flag e s lc)

theorem small_bcn (x : U16) (h1 : 1 ≤ x.toNat) (h4 : x.toNat ≤ 4) : x = 1 ∨ x = 2 ∨ x = 3 ∨ x = 4 := by
  have : x.toNat = 1 ∨ x.toNat = 2 ∨ x.toNat = 3 ∨ x.toNat = 4 := by omega
  rcases this with h | h | h | h
  · exact .inl (BitVec.eq_of_toNat_eq h)
  · exact .inr (.inl (BitVec.eq_of_toNat_eq h))
  · exact .inr (.inr (.inl (BitVec.eq_of_toNat_eq h)))
  · exact .inr (.inr (.inr (BitVec.eq_of_toNat_eq h)))

/-- `std::copy(begin + 1, begin + n, begin)` on the frame stack. -/
def popV (bk : Vector BkFrame 4) (n : Nat) : Vector BkFrame 4 :=
  Vector.ofFn fun (k : Fin 4) => if k.val + 1 < n then bk.toArray.getD (k.val + 1) {} else bk[k]

/-- `std::copy_backward(begin, begin + n, begin + n + 1)` on the frame stack. -/
def pushV (bk : Vector BkFrame 4) (n : Nat) : Vector BkFrame 4 :=
  Vector.ofFn fun (k : Fin 4) => if 1 ≤ k.val ∧ k.val ≤ n then bk.toArray.getD (k.val - 1) {} else bk[k]

def popped (r : Regs) : Regs :=
  { r with bkrep := popV r.bkrep r.bcn.toNat, bcn := r.bcn - 1, lp := if r.bcn - 1 = 0 then 0 else r.lp }

theorem storePop_on (r : Regs) (hlp : r.lp ≠ 0) (h1 : 1 ≤ r.bcn.toNat) (h4 : r.bcn.toNat ≤ 4) :
    storePop r = .ok (popped r) := by
  have hl : (r.lp != 0) = true := bne_iff_ne.2 hlp
  have hg : (r.bcn.toNat == 0 || decide (r.bcn.toNat > 4)) = false := by
    rw [Bool.or_eq_false_iff]
    exact ⟨by rw [beq_eq_false_iff_ne]; omega, by rw [decide_eq_false_iff_not]; omega⟩
  unfold storePop popped
  rw [if_pos hl, hg, if_neg Bool.false_ne_true]
  dsimp only
  by_cases hz : r.bcn - 1 = 0
  · have hz' : (r.bcn - 1 == 0) = true := beq_iff_eq.2 hz
    rw [if_pos hz', if_pos hz]; rfl
  · have hz' : (r.bcn - 1 == 0) = false := beq_eq_false_iff_ne.2 hz
    rw [hz', if_neg Bool.false_ne_true, if_neg hz]; rfl

theorem storePop_off (r : Regs) (hlp : r.lp = 0) : storePop r = .ok r := by
  unfold storePop; rw [hlp]; rfl

theorem restoreShift_on (r : Regs) (hlp : r.lp ≠ 0) (hb : r.bcn.toNat ≤ 3) :
    restoreShift r = .ok { r with bkrep := pushV r.bkrep r.bcn.toNat, bcn := r.bcn + 1 } := by
  have hl : (r.lp != 0) = true := bne_iff_ne.2 hlp
  unfold restoreShift
  rw [if_pos hl, if_pos hb]; rfl

theorem restoreShift_off (r : Regs) (hlp : r.lp = 0) : restoreShift r = .ok r := by
  unfold restoreShift; rw [hlp]; rfl

theorem restoreValid_on (r : Regs) (flag : U16) (hlp : r.lp ≠ 0) (hv : validOf flag ≠ 0) :
    restoreValid r flag = .ok r := by
  have hl : (r.lp != 0) = true := bne_iff_ne.2 hlp
  have hv' : (validOf flag != 0) = true := bne_iff_ne.2 hv
  unfold restoreValid
  rw [if_pos hl, if_pos hv']

theorem restoreValid_off (r : Regs) (flag : U16) (hlp : r.lp = 0) :
    restoreValid r flag = .ok (if validOf flag = 0 then r else { r with bcn := 1, lp := 1 }) := by
  unfold restoreValid
  rw [hlp, if_neg (by decide)]
  by_cases hv : validOf flag = 0
  · rw [if_pos hv, hv]; rfl
  · have hv' : (validOf flag != 0) = true := bne_iff_ne.2 hv
    rw [if_neg hv, if_pos hv']

theorem popV_getElem (bk : Vector BkFrame 4) (n k : Nat) (hk : k < 4) :
    (popV bk n)[k] = if k + 1 < n then bk.toArray.getD (k + 1) {} else bk[k] := by
  unfold popV; rw [Vector.getElem_ofFn]; rfl

theorem pushV_getElem (bk : Vector BkFrame 4) (n k : Nat) (hk : k < 4) :
    (pushV bk n)[k] = if 1 ≤ k ∧ k ≤ n then bk.toArray.getD (k - 1) {} else bk[k] := by
  unfold pushV; rw [Vector.getElem_ofFn]; rfl

/-- Moving the upper frames down, back up, and putting frame 0 back is the identity: slot `k ≥ 1`
below the depth gets back what went down to `k - 1`, the slots above were never touched. -/
theorem push_pop (bk : Vector BkFrame 4) (n : Nat) (h1 : 1 ≤ n) (h4 : n ≤ 4) :
    (pushV (popV bk n) (n - 1)).set 0 bk[0] = bk := by
  apply Vector.ext; intro k hk
  rw [Vector.getElem_set]
  by_cases h0 : 0 = k
  · subst h0; rw [if_pos rfl]
  · rw [if_neg h0, pushV_getElem]
    by_cases hkn : 1 ≤ k ∧ k ≤ n - 1
    · rw [if_pos hkn, toArray_getD _ _ (by omega), popV_getElem, if_pos (by omega), toArray_getD _ _ (by omega)]
      congr 1
      omega
    · rw [if_neg hkn, popV_getElem, if_neg (by omega)]

theorem pushV_zero (bk : Vector BkFrame 4) : pushV bk 0 = bk := by
  apply Vector.ext; intro k hk
  rw [pushV_getElem, if_neg (by omega)]

theorem pop_one (bk : Vector BkFrame 4) : (popV bk 1).set 0 bk[0] = bk := by
  have := push_pop bk 1 (Nat.le_refl _) (by omega)
  rwa [pushV_zero] at this

theorem restorePure_eq {r' r0 r1 : Regs} {flag : U16} (e s lc : U16) (h1 : restoreShift r' = .ok r0)
    (h2 : restoreValid r0 flag = .ok r1) : restorePure r' flag e s lc = .ok (restoreFrame r1 flag e s lc) := by
  unfold restorePure
  rw [h1]
  dsimp only
  rw [h2]

theorem regs_eta (r : Regs) (bk : Vector BkFrame 4) (b l : U16) (h1 : bk = r.bkrep) (h2 : b = r.bcn)
    (h3 : l = r.lp) : ({ r with bkrep := bk, bcn := b, lp := l } : Regs) = r := by
  subst h1 h2 h3; rfl

/-- The round trip with frame 0 as a variable. -/
theorem round_trip (r : Regs) (f : BkFrame) (hf : r.bkrep[0] = f)
    (hs : f.start.toNat < 2 ^ 18) (he : f.end_.toNat < 2 ^ 18)
    (hcase : r.lp = 0 ∨ (r.lp = 1 ∧ 1 ≤ r.bcn.toNat ∧ r.bcn.toNat ≤ 4)) :
    ∃ r', storePop r = .ok r' ∧ restorePure r' (packFlag r.lp f) (low16 f.end_) (low16 f.start) f.lc = .ok r := by
  have hv := (restore_store_words r.lp f (hcase.imp id And.left) hs he).2
  have hpk := fun r' => restoreFrame_pack r' r.lp f (hcase.imp id And.left) hs he
  rcases hcase with hlp | ⟨hlp, h1, h4⟩
  · -- outside a loop: nothing is popped, the saved frame is marked invalid
    refine ⟨r, storePop_off r hlp, ?_⟩
    have h2 : restoreValid r (packFlag r.lp f) = .ok r := by
      rw [restoreValid_off r _ hlp, if_pos (hv.trans hlp)]
    rw [restorePure_eq _ _ _ (restoreShift_off r hlp) h2, hpk, ← hf, Vector.set_getElem_self]
  · have hlp0 : r.lp ≠ 0 := by rw [hlp]; decide
    have hv0 : validOf (packFlag r.lp f) ≠ 0 := by rw [hv]; exact hlp0
    refine ⟨_, storePop_on r hlp0 h1 h4, ?_⟩
    by_cases hone : r.bcn.toNat = 1
    · -- depth 1: the loop state is switched off by the store and on again by the restore
      have hb1 : r.bcn = 1 := BitVec.eq_of_toNat_eq hone
      have hl' : (popped r).lp = 0 := if_pos (by rw [hb1]; rfl)
      have h2 := restoreValid_off (popped r) (packFlag r.lp f) hl'
      rw [if_neg hv0] at h2
      rw [restorePure_eq _ _ _ (restoreShift_off _ hl') h2, hpk]
      exact congrArg Except.ok (regs_eta r ((popV r.bkrep r.bcn.toNat).set 0 f (by decide)) 1 1
        (by rw [hone, ← hf, pop_one]) hb1.symm hlp.symm)
    · -- depth 2 … 4: the upper frames move down and back up
      have hbt : (r.bcn - 1).toNat = r.bcn.toNat - 1 := BitVec.toNat_sub_of_le (show (1 : U16) ≤ r.bcn from h1)
      have hz : r.bcn - 1 ≠ 0 := fun h0 => by rw [h0] at hbt; change 0 = _ at hbt; omega
      have hl' : (popped r).lp ≠ 0 := by show (if r.bcn - 1 = 0 then (0 : U16) else r.lp) ≠ 0; rw [if_neg hz]; exact hlp0
      have h1' := restoreShift_on (popped r) hl' (by show (r.bcn - 1).toNat ≤ 3; omega)
      rw [restorePure_eq _ _ _ h1' (restoreValid_on _ _ hl' hv0), hpk]
      exact congrArg Except.ok (regs_eta r ((pushV (popV r.bkrep r.bcn.toNat) (r.bcn - 1).toNat).set 0 f (by decide))
        (r.bcn - 1 + 1) (if r.bcn - 1 = 0 then 0 else r.lp)
        (by rw [hbt, ← hf, push_pop r.bkrep r.bcn.toNat (by omega) h4]) (BitVec.sub_add_cancel _ _) (if_neg hz))

/-- **Round trip on the register level.**  `StoreBlockRepeat` followed by `RestoreBlockRepeat`
(their register parts `storePop` and `restorePure`, the latter fed with the words the former wrote)
is the identity: all four frames, `bcn` and `lp` come back exactly — outside a loop (`lp = 0`) and
inside one at any nesting depth 1 … 4. -/
theorem restore_store_regs (r : Regs)
    (hs : r.bkrep[0].start.toNat < 2 ^ 18) (he : r.bkrep[0].end_.toNat < 2 ^ 18)
    (hcase : r.lp = 0 ∨ (r.lp = 1 ∧ 1 ≤ r.bcn.toNat ∧ r.bcn.toNat ≤ 4)) :
    ∃ r', storePop r = .ok r' ∧
      restorePure r' (packFlag r.lp r.bkrep[0]) (low16 r.bkrep[0].end_) (low16 r.bkrep[0].start) r.bkrep[0].lc =
        .ok r :=
  round_trip r _ rfl hs he hcase

end Teakra
