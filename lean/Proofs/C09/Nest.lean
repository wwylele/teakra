import Proofs.Cycle.Book
/-!
# C09 — frame push / pop: block repeats nest four deep

`BlockRepeat` pushes a frame at index `bcn` and asserts `bcn ≤ 3`.  A level is left by `break` or by
the bookkeeping behind the last word of a block whose counter is 0 (`book_loop_exit`, here with the
`lp` bit worked out); both decrement `bcn`, keep every frame, and clear `lp` only at depth 1.
-/
namespace Teakra
open Exec ExecLemmas Interp Sys

/-- `BlockRepeat` over any way `sf` of writing a field of a frame.  The model's `setFrame` is private:
it cannot be named, but it is what `sf` is when `Exec.blockRepeat` is compared with this.  (`sf` a
variable, not a public copy of `setFrame` as in `FrameRun.lean`: the comparison is then first-order;
unfolding two copies through the three nested `let`s is slow.) -/
def blockRepeatWith (sf : Regs → Nat → (BkFrame → BkFrame) → Regs) (lc : U16) (address : U32) : Exec Unit := do
  assert ((← getRegs).bcn.toNat ≤ 3)
  modifyRegs fun r =>
    let r := sf r r.bcn.toNat fun f => { f with start := r.pc }
    let r := sf r r.bcn.toNat fun f => { f with end_ := address }
    let r := sf r r.bcn.toNat fun f => { f with lc := lc }
    { r with lp := 1, bcn := r.bcn + 1 }

theorem blockRepeatWith_push {sf : Regs → Nat → (BkFrame → BkFrame) → Regs} (lc : U16) (addr : U32) (c : Core)
    (i : Nat) (hb : c.regs.bcn.toNat = i) (hi : i < 4)
    (hsf : ∀ r f, sf r i f = { r with bkrep := r.bkrep.set i (f r.bkrep[i]) }) :
    (blockRepeatWith sf lc addr).run c =
      .ok ((), { c with regs := { c.regs with
        bkrep := c.regs.bkrep.set i { start := c.regs.pc, end_ := addr, lc := lc },
        lp := 1, bcn := c.regs.bcn + 1 } }) := by
  unfold blockRepeatWith
  rw [run_getRegs_bind, run_bind]
  have : decide (c.regs.bcn.toNat ≤ 3) = true := by rw [hb]; exact decide_eq_true (by omega)
  rw [this, run_assert_true, except_ok_bind, snd_mk, run_modifyRegs]
  simp only [hb, hsf, Vector.getElem_set_self, Vector.set_set]

/-- `BlockRepeat` with `bcn ≤ 3` pushes the frame `{start := pc, end := address, lc}` at index
`bcn`, sets `lp` and increments `bcn`; nothing else changes. -/
theorem blockRepeat_push (lc : U16) (addr : U32) (c : Core) (i : Nat) (hb : c.regs.bcn.toNat = i) (hi : i < 4) :
    (Exec.blockRepeat lc addr).run c =
      .ok ((), { c with regs := { c.regs with
        bkrep := c.regs.bkrep.set i { start := c.regs.pc, end_ := addr, lc := lc },
        lp := 1, bcn := c.regs.bcn + 1 } }) := by
  have h : Exec.blockRepeat lc addr = blockRepeatWith _ lc addr := rfl
  rw [h]
  exact blockRepeatWith_push lc addr c i hb hi fun r f => dif_pos hi

/-- `BlockRepeat` with four frames already on the stack: the `ASSERT(regs.bcn <= 3)` fires.
Block repeats nest four deep and no deeper. -/
theorem blockRepeat_full (lc : U16) (addr : U32) (c : Core) (hb : 4 ≤ c.regs.bcn.toNat) :
    (Exec.blockRepeat lc addr).run c = .error (.abort .assert) := by
  unfold Exec.blockRepeat
  rw [run_getRegs_bind, run_bind]
  have : decide (c.regs.bcn.toNat ≤ 3) = false := decide_eq_false (by omega)
  rw [this, run_assert_false, except_error_bind]

/-- `break` inside a block repeat pops one level: `bcn` is decremented and `lp` becomes
`bcn - 1 ≠ 0`; frames and `pc` are untouched. -/
theorem break_spec (c : Core) (hlp : c.regs.lp ≠ 0) :
    Exec.break_.run c =
      .ok ((), { c with regs := { c.regs with bcn := c.regs.bcn - 1, lp := Alu.b2u (c.regs.bcn - 1 != 0) } }) := by
  unfold Exec.break_
  rw [run_getRegs_bind, run_bind]
  have : (c.regs.lp != 0) = true := bne_iff_ne.2 hlp
  rw [this, run_assert_true, except_ok_bind, snd_mk, run_bind, run_modifyRegs, except_ok_bind, snd_mk,
    run_modifyRegs]

/-- `break` outside a block repeat: `ASSERT(regs.lp)` fires. -/
theorem break_outside (c : Core) (hlp : c.regs.lp = 0) : Exec.break_.run c = .error (.abort .assert) := by
  unfold Exec.break_
  rw [run_getRegs_bind, run_bind]
  have : (c.regs.lp != 0) = false := by simp [hlp]
  rw [this, run_assert_false, except_error_bind]

theorem b2u_true : Alu.b2u true = 1 := rfl
theorem b2u_false : Alu.b2u false = 0 := rfl

/-- Exit of a nested block (`bcn ≥ 2`): `lp` stays 1, `bcn` is decremented, all frames — the outer
ones in particular — are intact and `pc` falls through. -/
theorem nested_exit (r : Regs) (i : Nat) (hlp : r.lp ≠ 0) (hb : r.bcn.toNat = i + 2) (hi : i + 1 < 4)
    (hend : r.bkrep[i + 1].end_ + 1 = r.pc) (hlc : r.bkrep[i + 1].lc = 0) :
    loopBook r = .ok { r with bcn := r.bcn - 1, lp := 1 } := by
  rw [book_loop_exit r (i + 1) hlp hb hi hend hlc]
  have : (r.bcn - 1 != 0) = true := by
    rw [bne_iff_ne]; intro h0
    have := congrArg BitVec.toNat h0
    rw [BitVec.toNat_sub] at this
    simp at this; omega
  rw [this, b2u_true]

/-- Exit of the outermost block (`bcn = 1`): the in-loop state clears, `lp = 0`, `bcn = 0`. -/
theorem outer_exit (r : Regs) (hlp : r.lp ≠ 0) (hb : r.bcn.toNat = 1)
    (hend : r.bkrep[0].end_ + 1 = r.pc) (hlc : r.bkrep[0].lc = 0) :
    loopBook r = .ok { r with bcn := 0, lp := 0 } := by
  rw [book_loop_exit r 0 hlp hb (by omega) hend hlc]
  have hb1 : r.bcn = 1 := BitVec.eq_of_toNat_eq hb
  rw [hb1]; rfl

end Teakra
