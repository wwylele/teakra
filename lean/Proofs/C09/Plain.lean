import Proofs.Cycle.Poll
/-!
# C09 — the loop-state view, straight-line instructions, counting loop bodies

The counting theorems of C09 compare `n` loop bodies of `Run` (`cycles n`) with a handler executed
several times (`iter h n`; `seqH hs` for the handlers of a block, in order).
* They compare through `loopView`, which erases from a machine state exactly what the loop machinery
  owns (`pc, rep, repc, lp, bcn, bkrep`) and the memory-access log (`Core.log`, pure
  instrumentation).  Two states with the same `loopView` and the same six loop registers are equal
  except for the log (`loopView_determines`).
* The instructions inside a loop have to be `Plain`; `Kept` is what such an instruction leaves alone:
  the six loop registers, `prpage`, `ie`, the cross-thread latches, the program words at the
  addresses in `A`.
-/
namespace Teakra
open Exec ExecLemmas Interp Sys

def Regs.noLoop (r : Regs) : Regs :=
  { r with pc := 0, rep := false, repc := 0, lp := 0, bcn := 0, bkrep := Vector.replicate 4 {} }

def loopView (c : Core) : Core := { c with regs := c.regs.noLoop, log := [] }

theorem loopView_determines (c₁ c₂ : Core) (h : loopView c₁ = loopView c₂)
    (hpc : c₁.regs.pc = c₂.regs.pc) (hrep : c₁.regs.rep = c₂.regs.rep) (hrepc : c₁.regs.repc = c₂.regs.repc)
    (hlp : c₁.regs.lp = c₂.regs.lp) (hbcn : c₁.regs.bcn = c₂.regs.bcn) (hbk : c₁.regs.bkrep = c₂.regs.bkrep) :
    { c₁ with log := [] } = { c₂ with log := [] } := by
  obtain ⟨r₁, b₁, l₁, e₁, ip₁, vp₁, vc₁, va₁, i₁⟩ := c₁
  obtain ⟨r₂, b₂, l₂, e₂, ip₂, vp₂, vc₂, va₂, i₂⟩ := c₂
  simp only [loopView, Core.mk.injEq] at h
  obtain ⟨hr, hb, -, he, hip, hvp, hvc, hva, hi⟩ := h
  subst hb he hip hvp hvc hva hi
  have : r₁ = r₂ := by
    cases r₁; cases r₂
    simp only [Regs.noLoop, Regs.mk.injEq] at hr
    simp only [] at hpc hrep hrepc hlp hbcn hbk
    simp only [hr, hpc, hrep, hrepc, hlp, hbcn, hbk]
  subst this
  rfl

def seen (x : Except Stop (Unit × Core)) : Except Stop Core :=
  match x with
  | .ok r => .ok (loopView r.2)
  | .error e => .error e

structure Kept (A : U32 → Prop) (c c' : Core) : Prop where
  pc : c'.regs.pc = c.regs.pc
  prpage : c'.regs.prpage = c.regs.prpage
  rep : c'.regs.rep = c.regs.rep
  repc : c'.regs.repc = c.regs.repc
  lp : c'.regs.lp = c.regs.lp
  bcn : c'.regs.bcn = c.regs.bcn
  bkrep : c'.regs.bkrep = c.regs.bkrep
  ie : c'.regs.ie = c.regs.ie
  ipend : c'.ipend = c.ipend
  vpend : c'.vpend = c.vpend
  prog : ∀ a, A a → c'.bus.programRead a = c.bus.programRead a

theorem Kept.refl (A : U32 → Prop) (c : Core) : Kept A c c :=
  ⟨rfl, rfl, rfl, rfl, rfl, rfl, rfl, rfl, rfl, rfl, fun _ _ => rfl⟩

theorem Kept.trans {A : U32 → Prop} {c₁ c₂ c₃ : Core} (h : Kept A c₁ c₂) (g : Kept A c₂ c₃) : Kept A c₁ c₃ :=
  ⟨g.pc.trans h.pc, g.prpage.trans h.prpage, g.rep.trans h.rep, g.repc.trans h.repc, g.lp.trans h.lp,
   g.bcn.trans h.bcn, g.bkrep.trans h.bkrep, g.ie.trans h.ie, g.ipend.trans h.ipend, g.vpend.trans h.vpend,
   fun a ha => (g.prog a ha).trans (h.prog a ha)⟩

/-- `h` behaves like a straight-line instruction: when it completes it has left alone everything
the loop machinery and the fetch depend on (`frame`), and its behaviour does not depend on the loop
state or the access log (`blind`) — it is the same instruction wherever and under whatever loop it
is executed. -/
structure Plain (A : U32 → Prop) (h : Exec Unit) : Prop where
  frame : ∀ c c', h.run c = .ok ((), c') → Kept A c c'
  blind : ∀ c₁ c₂, loopView c₁ = loopView c₂ → seen (h.run c₁) = seen (h.run c₂)

def cycles : Nat → Exec Unit
  | 0 => pure ()
  | n + 1 => do cycle; cycles n

def iter (h : Exec Unit) : Nat → Exec Unit
  | 0 => pure ()
  | n + 1 => do h; iter h n

def seqH : List (Exec Unit) → Exec Unit
  | [] => pure ()
  | h :: t => do h; seqH t

theorem cycles_succ (n : Nat) (c : Core) :
    (cycles (n + 1)).run c = cycle.run c >>= fun r => (cycles n).run r.2 := by
  rw [cycles, run_bind]

theorem iter_succ (h : Exec Unit) (n : Nat) (c : Core) :
    (iter h (n + 1)).run c = h.run c >>= fun r => (iter h n).run r.2 := by
  rw [iter, run_bind]

theorem cycles_add (m n : Nat) (c : Core) :
    (cycles (m + n)).run c = (cycles m).run c >>= fun r => (cycles n).run r.2 := by
  induction m generalizing c with
  | zero => rw [Nat.zero_add]; rfl
  | succ m ih =>
    rw [Nat.add_right_comm, cycles_succ, cycles_succ]
    cases cycle.run c with
    | error e => rfl
    | ok r => rw [except_ok_bind, except_ok_bind, ih]

theorem cycles_one (c : Core) : (cycles 1).run c = cycle.run c := by
  rw [cycles_succ]; cases cycle.run c <;> rfl

theorem seen_eq_map (x : Except Stop (Unit × Core)) : seen x = x.map fun r => loopView r.2 := by
  cases x <;> rfl

/-- The continuation may use where its states come from: `Sim.seq` needs that for the postcondition
of its first half. -/
theorem seen_bind {x y : Except Stop (Unit × Core)} {k k' : Exec Unit} (hxy : seen x = seen y)
    (hk : ∀ c c', x = .ok ((), c) → y = .ok ((), c') → loopView c = loopView c' →
      seen (k.run c) = seen (k'.run c')) :
    seen (x >>= fun r => k.run r.2) = seen (y >>= fun r => k'.run r.2) := by
  simp only [seen_eq_map] at hxy hk ⊢
  exact Except.map_bind_congr hxy fun a b => hk a.2 b.2

theorem Plain.pure (A : U32 → Prop) : Plain A (pure ()) :=
  ⟨fun c c' h => by cases h; exact Kept.refl A c, fun c₁ c₂ h => by rw [run_pure, run_pure]; exact congrArg Except.ok h⟩

theorem Plain.seq {A : U32 → Prop} {h g : Exec Unit} (ph : Plain A h) (pg : Plain A g) :
    Plain A (do h; g) := by
  constructor
  · intro c c' hr
    obtain ⟨⟨⟨⟩, c₁⟩, h1, h2⟩ := Except.bind_eq_ok.mp ((run_bind h _ c).symm.trans hr)
    exact (ph.frame _ _ h1).trans (pg.frame _ _ h2)
  · intro c₁ c₂ hv
    show seen ((h >>= fun _ => g).run c₁) = seen ((h >>= fun _ => g).run c₂)
    rw [run_bind, run_bind]
    exact seen_bind (ph.blind _ _ hv) fun _ _ _ _ => pg.blind _ _

theorem Plain.iter {A : U32 → Prop} {h : Exec Unit} (ph : Plain A h) (n : Nat) : Plain A (iter h n) := by
  induction n with
  | zero => exact Plain.pure A
  | succ n ih => exact ph.seq ih

theorem Plain.seqH {A : U32 → Prop} {hs : List (Exec Unit)} (ph : ∀ h ∈ hs, Plain A h) : Plain A (seqH hs) := by
  induction hs with
  | nil => exact Plain.pure A
  | cons h t ih =>
    exact (ph h (List.mem_cons_self)).seq (ih fun g hg => ph g (List.mem_cons_of_mem _ hg))

/-! ## counting loop bodies

`Sim n H P Q`: from a state in `P`, `n` loop bodies show (through `loopView`) what one run of `H`
shows, and when they complete they end in `Q`.  All counting theorems are instances of three rules:
one loop body on a plain instruction (`Sim.step`, below), sequencing (`Sim.seq`) and a
down-counting 16-bit counter (`Sim.count`). -/

def Sim (n : Nat) (H : Exec Unit) (P Q : Core → Prop) : Prop :=
  ∀ c, P c → seen ((cycles n).run c) = seen (H.run c) ∧ ∀ c', (cycles n).run c = .ok ((), c') → Q c'

theorem Sim.nil {P Q : Core → Prop} (h : ∀ c, P c → Q c) : Sim 0 (pure ()) P Q :=
  fun c hc => ⟨rfl, fun c' hr => by cases hr; exact h c hc⟩

theorem Sim.post {n : Nat} {H : Exec Unit} {P Q Q' : Core → Prop} (h : Sim n H P Q)
    (hQ : ∀ c, Q c → Q' c) : Sim n H P Q' :=
  fun c hc => ⟨(h c hc).1, fun c' hr => hQ c' ((h c hc).2 c' hr)⟩

theorem Sim.seq {A : U32 → Prop} {m n : Nat} {H K : Exec Unit} {P Q R : Core → Prop}
    (h1 : Sim m H P Q) (h2 : Sim n K Q R) (pK : Plain A K) : Sim (m + n) (do H; K) P R := by
  intro c hc
  obtain ⟨s1, q1⟩ := h1 c hc
  rw [cycles_add]
  show seen _ = seen ((H >>= fun _ => K).run c) ∧ _
  rw [run_bind]
  refine ⟨seen_bind s1 fun c₂ c₂' hr _ h12 => ?_, fun c' hr => ?_⟩
  · rw [(h2 c₂ (q1 c₂ hr)).1]
    exact pK.blind _ _ h12
  · obtain ⟨⟨⟨⟩, c₂⟩, hm, hn⟩ := Except.bind_eq_ok.mp hr
    exact (h2 c₂ (q1 c₂ hm)).2 c' hn

/-- A counter `n` that `m` loop bodies decrement while it is not 0, and that lets them leave to
`Q` when it is 0: `(n + 1) * m` loop bodies are `n + 1` runs of `H`.  The only place where the
16-bit arithmetic of the counters is done. -/
theorem Sim.count {A : U32 → Prop} {m : Nat} {H : Exec Unit} (pH : Plain A H) {I : U16 → Core → Prop}
    {Q : Core → Prop} (hstep : ∀ n, n ≠ 0 → Sim m H (I n) (I (n - 1))) (hlast : Sim m H (I 0) Q) (n : U16) :
    Sim ((n.toNat + 1) * m) (iter H (n.toNat + 1)) (I n) Q := by
  induction hk : n.toNat generalizing n with
  | zero =>
    rw [show n = 0 from BitVec.eq_of_toNat_eq hk, Nat.zero_add, Nat.one_mul]
    exact hlast.seq (Sim.nil fun _ h => h) (Plain.pure A)
  | succ k ih =>
    have hn : n ≠ 0 := by intro h; rw [h] at hk; cases hk
    have hk' : (n - 1).toNat = k := by
      have := n.isLt
      rw [BitVec.toNat_sub]; simp; omega
    rw [Nat.succ_mul, Nat.add_comm]
    exact (hstep n hn).seq (ih (n - 1) hk') (pH.iter _)

theorem Sim.count_at {m : Nat} {H : Exec Unit} {I : U16 → Core → Prop}
    (hstep : ∀ n, n ≠ 0 → Sim m H (I n) (I (n - 1))) (n : U16) (c : Core) (hc : I n c) :
    ∀ j, j ≤ n.toNat → ∀ cj, (cycles (j * m)).run c = .ok ((), cj) → I (n - BitVec.ofNat 16 j) cj := by
  intro j
  induction j with
  | zero =>
    intro _ cj hr
    rw [Nat.zero_mul] at hr
    cases hr
    exact (BitVec.sub_zero n).symm ▸ hc
  | succ j ih =>
    intro hj cj hr
    rw [Nat.succ_mul, cycles_add] at hr
    obtain ⟨⟨⟨⟩, c₁⟩, h1, h2⟩ := Except.bind_eq_ok.mp hr
    have hne : n - BitVec.ofNat 16 j ≠ 0 := by
      intro h0
      have h : n = BitVec.ofNat 16 j := (BitVec.sub_eq_iff_eq_add.1 h0).trans (BitVec.zero_add _)
      rw [h, BitVec.toNat_ofNat] at hj
      exact Nat.not_succ_le_self j (Nat.le_trans hj (Nat.mod_le _ _))
    rw [BitVec.ofNat_add, ← BitVec.sub_sub]
    exact (hstep _ hne _ (ih (by omega) c₁ h1)).2 cj h2

/-! ## one loop body on a plain instruction

With no latch pending, the loop body on a plain instruction is: log the fetch, apply the two
bookkeeping functions to the register file, run the handler.  The interrupt block does nothing when
interrupts are disabled (`ie = 0`) or a `rep` is running (`Run` takes an interrupt only under
`regs.ie && !regs.rep`). -/

/-- The program word at `a` is a one-word instruction whose handler is `h`. -/
def Fetches1 (b : Bus) (a : U32) (h : Exec Unit) : Prop :=
  ∃ (w : U16) (accs : List Access) (p : InstrPat),
    b.programRead a = .ok (w, accs) ∧ decoderArray.getD w.toNat none = some p ∧ p.expanded = false ∧
    h = dispatch p.idx (p.extract w.toNat 0)

/-- The program words at `a`, `a'` are a two-word instruction whose handler is `h`. -/
def Fetches2 (b : Bus) (a a' : U32) (h : Exec Unit) : Prop :=
  ∃ (w w2 : U16) (accs accs2 : List Access) (p : InstrPat),
    b.programRead a = .ok (w, accs) ∧ decoderArray.getD w.toNat none = some p ∧ p.expanded = true ∧
    b.programRead a' = .ok (w2, accs2) ∧ h = dispatch p.idx (p.extract w.toNat w2.toNat)

theorem Fetches1.of_eq {b b0 : Bus} {a : U32} {h : Exec Unit} (hf : Fetches1 b0 a h)
    (he : b.programRead a = b0.programRead a) : Fetches1 b a h := by
  obtain ⟨w, accs, p, h1, h2⟩ := hf
  exact ⟨w, accs, p, he.trans h1, h2⟩

theorem Fetches2.of_eq {b b0 : Bus} {a a' : U32} {h : Exec Unit} (hf : Fetches2 b0 a a' h)
    (he : b.programRead a = b0.programRead a) (he' : b.programRead a' = b0.programRead a') :
    Fetches2 b a a' h := by
  obtain ⟨w, w2, accs, accs2, p, h1, h2, h3, h4, h5⟩ := hf
  exact ⟨w, w2, accs, accs2, p, he.trans h1, h2, h3, he'.trans h4, h5⟩

theorem then_ic {h : Exec Unit} {x x' : Core} (hh : h.run x = .ok ((), x'))
    (hq : x'.regs.ie = 0 ∨ x'.regs.rep = true) :
    StateT.run (do h; interruptCheck : Exec Unit) x = .ok ((), x') := by
  rw [run_bind, hh, except_ok_bind, snd_mk, interruptCheck_spec, if_pos hq]

theorem plain_then_ic {A : U32 → Prop} {h : Exec Unit} (ph : Plain A h) (x : Core)
    (hq : x.regs.ie = 0 ∨ x.regs.rep = true) :
    StateT.run (do h; interruptCheck : Exec Unit) x = h.run x := by
  cases hh : h.run x with
  | error e => rw [run_bind, hh]; rfl
  | ok r =>
    have k := ph.frame x r.2 hh
    exact then_ic hh (hq.imp k.ie.trans k.rep.trans)

theorem cycle_fetches1 {h : Exec Unit} (c : Core)
    (hi : c.ipend = Vector.replicate 3 false) (hv : c.vpend = false)
    (hf : Fetches1 c.bus (fetchAddress c.regs) h) (r' : Regs)
    (hbook : loopBook (repBook (bumpPc c.regs)) = .ok r') :
    ∃ accs, cycle.run c =
      StateT.run (do h; interruptCheck : Exec Unit) { c with regs := r', log := accs ++ c.log } := by
  obtain ⟨w, accs, p, hread, hdec, hexp, rfl⟩ := hf
  refine ⟨accs.reverse, ?_⟩
  have hl : latchAll c = c.regs := congrArg Core.regs (latched_of_noLatch c hi hv)
  rw [cycle_one c w accs p (hl ▸ hread) hdec hexp, hl, hbook, latched_of_noLatch c hi hv]

theorem cycle_fetches2 {h : Exec Unit} (c : Core)
    (hi : c.ipend = Vector.replicate 3 false) (hv : c.vpend = false)
    (hf : Fetches2 c.bus (fetchAddress c.regs) (fetchAddress (bumpPc c.regs)) h) (r' : Regs)
    (hbook : loopBook (repBook (bumpPc (bumpPc c.regs))) = .ok r') :
    ∃ accs, cycle.run c =
      StateT.run (do h; interruptCheck : Exec Unit) { c with regs := r', log := accs ++ c.log } := by
  obtain ⟨w, w2, accs, accs2, p, hread, hdec, hexp, hread2, rfl⟩ := hf
  refine ⟨accs2.reverse ++ accs.reverse, ?_⟩
  have hl : latchAll c = c.regs := congrArg Core.regs (latched_of_noLatch c hi hv)
  rw [cycle_two c w w2 accs accs2 p (hl ▸ hread) hdec hexp (hl ▸ hread2), hl, hbook,
    latched_of_noLatch c hi hv, List.append_assoc]

/-- **One loop body on a plain instruction, as a counting rule.**  The bookkeeping puts the machine
into a state `c₁` that differs from `c` in loop registers and log only and satisfies `Q`; the
handler runs there, and `Q` is something a plain instruction keeps. -/
theorem Sim.step {A : U32 → Prop} {h : Exec Unit} (ph : Plain A h) {P Q : Core → Prop}
    (hQ : ∀ c c', Kept A c c' → Q c → Q c')
    (hcy : ∀ c, P c → ∃ c₁, cycle.run c = h.run c₁ ∧ loopView c₁ = loopView c ∧ Q c₁) : Sim 1 h P Q := by
  intro c hc
  obtain ⟨c₁, hcy, hv, hq⟩ := hcy c hc
  rw [cycles_one, hcy]
  exact ⟨ph.blind _ _ hv, fun c' hr => hQ _ _ (ph.frame _ _ hr) hq⟩

/-- One loop body that shows nothing (a loop instruction itself). -/
theorem Sim.silent {Q : Core → Prop} {c c₁ : Core} (hc : cycle.run c = .ok ((), c₁))
    (hv : loopView c₁ = loopView c) (hq : Q c₁) : Sim 1 (pure ()) (c = ·) Q := by
  rintro _ rfl
  rw [cycles_one, hc]
  exact ⟨congrArg Except.ok hv, fun c' hr => by cases hr; exact hq⟩

end Teakra
