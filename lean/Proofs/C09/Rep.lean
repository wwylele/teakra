import Proofs.C09.Plain
import Proofs.Cycle.Book
/-!
# C09 — `rep`: the repeated instruction is executed exactly `repc + 1` times

`rep_sim` is `Sim.count` over `repc` with one loop body per round and `RepState` as the invariant;
`rep_unrolled` reads it from a state in which the repeat is already running, `rep_program` from the
`rep` instruction itself.
-/
namespace Teakra
open Exec ExecLemmas Interp Sys

/-- The state of a running single-instruction repeat at the repeated instruction `pc0` with `n`
repetitions to go after the next one; `b0` is the bus the program was read from. -/
structure RepState (A : U32 → Prop) (b0 : Bus) (pg : U16) (pc0 : U32) (n : U16) (c : Core) : Prop where
  pc : c.regs.pc = pc0
  prpage : c.regs.prpage = pg
  rep : c.regs.rep = true
  repc : c.regs.repc = n
  lp : c.regs.lp = 0
  ie : c.regs.ie = 0
  ipend : c.ipend = Vector.replicate 3 false
  vpend : c.vpend = false
  prog : ∀ a, A a → c.bus.programRead a = b0.programRead a

structure RepDone (pc0 : U32) (c c' : Core) : Prop where
  rep : c'.regs.rep = false
  repc : c'.regs.repc = 0
  pc : c'.regs.pc = pc0 + 1
  lp : c'.regs.lp = 0
  bcn : c'.regs.bcn = c.regs.bcn
  bkrep : c'.regs.bkrep = c.regs.bkrep
  ie : c'.regs.ie = 0
  ipend : c'.ipend = Vector.replicate 3 false
  vpend : c'.vpend = false

section
variable {A : U32 → Prop} {h : Exec Unit} {b0 : Bus} {pg : U16} {pc0 : U32} {n : U16} {c c' c₀ : Core}

theorem RepState.kept (k : Kept A c c') (hs : RepState A b0 pg pc0 n c) : RepState A b0 pg pc0 n c' :=
  ⟨k.pc.trans hs.pc, k.prpage.trans hs.prpage, k.rep.trans hs.rep, k.repc.trans hs.repc, k.lp.trans hs.lp,
   k.ie.trans hs.ie, k.ipend.trans hs.ipend, k.vpend.trans hs.vpend, fun a ha => (k.prog a ha).trans (hs.prog a ha)⟩

theorem RepDone.kept (k : Kept A c c') (hd : RepDone pc0 c₀ c) : RepDone pc0 c₀ c' :=
  ⟨k.rep.trans hd.rep, k.repc.trans hd.repc, k.pc.trans hd.pc, k.lp.trans hd.lp, k.bcn.trans hd.bcn,
   k.bkrep.trans hd.bkrep, k.ie.trans hd.ie, k.ipend.trans hd.ipend, k.vpend.trans hd.vpend⟩

/-- **`rep`, counting.**  While `repc ≠ 0` the loop body is the handler run with `repc` decremented
and `pc` back on the instruction; with `repc = 0` it is the handler run with `rep` cleared and `pc`
past the instruction.  `c₀` only remembers `bcn` and `bkrep`, which `RepDone` reports unchanged. -/
theorem rep_sim (ph : Plain A h) (hA : A (fAddr pg pc0)) (hf : Fetches1 b0 (fAddr pg pc0) h) (c₀ : Core) (n : U16) :
    Sim (n.toNat + 1) (iter h (n.toNat + 1))
      (fun c => RepState A b0 pg pc0 n c ∧ c.regs.bcn = c₀.regs.bcn ∧ c.regs.bkrep = c₀.regs.bkrep)
      (RepDone pc0 c₀) := by
  have hfc : ∀ {n c}, RepState A b0 pg pc0 n c → Fetches1 c.bus (fetchAddress c.regs) h := fun hs => by
    rw [fetchAddress_eq, hs.pc, hs.prpage]; exact hf.of_eq (hs.prog _ hA)
  have key := Sim.count (m := 1) ph
    (I := fun n c => RepState A b0 pg pc0 n c ∧ c.regs.bcn = c₀.regs.bcn ∧ c.regs.bkrep = c₀.regs.bkrep)
    (Q := RepDone pc0 c₀) ?_ ?_ n
  · rwa [Nat.mul_one] at key
  · intro n hn
    refine Sim.step ph (fun _ _ k hs => ⟨hs.1.kept k, k.bcn.trans hs.2.1, k.bkrep.trans hs.2.2⟩) ?_
    intro c ⟨hs, hb, hk⟩
    have hbook : loopBook (repBook (bumpPc c.regs)) = .ok { c.regs with repc := n - 1 } := by
      rw [book_rep_more c.regs hs.rep (by rw [hs.repc]; exact hn), hs.repc]
      exact book_loop_off _ hs.lp
    obtain ⟨accs, hc⟩ := cycle_fetches1 c hs.ipend hs.vpend (hfc hs) _ hbook
    exact ⟨_, hc.trans (plain_then_ic ph _ (.inr hs.rep)), rfl, { hs with repc := rfl }, hb, hk⟩
  · refine Sim.step ph (fun _ _ k hd => hd.kept k) ?_
    intro c ⟨hs, hb, hk⟩
    have hbook : loopBook (repBook (bumpPc c.regs)) = .ok { c.regs with pc := c.regs.pc + 1, rep := false } := by
      rw [book_rep_last c.regs hs.rep hs.repc]
      exact book_loop_off _ hs.lp
    obtain ⟨accs, hc⟩ := cycle_fetches1 c hs.ipend hs.vpend (hfc hs) _ hbook
    exact ⟨_, hc.trans (plain_then_ic ph _ (.inl hs.ie)), rfl, rfl, hs.repc, congrArg (· + 1) hs.pc, hs.lp, hb, hk, hs.ie, hs.ipend, hs.vpend⟩

end

/-- **`rep` executes the repeated instruction exactly `repc + 1` times.**  Interrupts disabled, no
latch pending, no block repeat active; the word at `pc` is a plain one-word instruction with
handler `h`; `rep` is set and `repc = N` (any `N`, 0 … 65535).  Then `N + 1` loop bodies

* give the same outcome as executing `h` `N + 1` times — equality of everything but the loop
  registers and the access log, including the case that some execution aborts, and
* end with `rep = false`, `repc = 0`, `pc` behind the instruction, `lp, bcn, bkrep, ie` and the
  latches as before (`RepDone`);

by `loopView_determines` the two together fix the final state up to the access log. -/
theorem rep_unrolled {A : U32 → Prop} {h : Exec Unit} (ph : Plain A h) (c : Core)
    (hrep : c.regs.rep = true) (hlp : c.regs.lp = 0) (hie : c.regs.ie = 0)
    (hip : c.ipend = Vector.replicate 3 false) (hvp : c.vpend = false)
    (hA : A (fetchAddress c.regs)) (hf : Fetches1 c.bus (fetchAddress c.regs) h) :
    seen ((cycles (c.regs.repc.toNat + 1)).run c) = seen ((iter h (c.regs.repc.toNat + 1)).run c) ∧
    ∀ c', (cycles (c.regs.repc.toNat + 1)).run c = .ok ((), c') → RepDone c.regs.pc c c' :=
  rep_sim (b0 := c.bus) (pg := c.regs.prpage) ph hA hf c _ c
    ⟨⟨rfl, rfl, hrep, rfl, hlp, hie, hip, hvp, fun _ _ => rfl⟩, rfl, rfl⟩

/-- `Repeat`: the `rep` instruction itself sets the flag and the counter, nothing else. -/
theorem rep_sets (N : U16) (c : Core) :
    (Exec.repeat_ N).run c = .ok ((), { c with regs := { c.regs with repc := N, rep := true } }) := rfl

theorem rep_Imm8_eq (a : Nat) : Exec.rep_Imm8 a = Exec.repeat_ (imm16 a) := rfl

theorem rep_r6_run (c : Core) : Exec.rep_r6.run c = (Exec.repeat_ c.regs.r[6]).run c := rfl

/-- **`rep #N` followed by instruction I executes I exactly `N + 1` times**, for every `N` in
0 … 65535.  `hr` is the handler of the `rep` instruction at `pc` (count `N`, from an immediate or
a register: `hrun`), `h` the plain one-word instruction behind it.  `1 + (N + 1)` loop bodies give
the outcome of `N + 1` executions of `h` and leave `pc` behind I with `rep` cleared. -/
theorem rep_program {A : U32 → Prop} {h hr : Exec Unit} (ph : Plain A h) (c : Core) (N : U16)
    (hrep : c.regs.rep = false) (hlp : c.regs.lp = 0) (hie : c.regs.ie = 0)
    (hip : c.ipend = Vector.replicate 3 false) (hvp : c.vpend = false)
    (hfr : Fetches1 c.bus (fetchAddress c.regs) hr)
    (hrun : ∀ x : Core, x.regs = bumpPc c.regs → hr.run x = (Exec.repeat_ N).run x)
    (hA : A (fAddr c.regs.prpage (c.regs.pc + 1)))
    (hf : Fetches1 c.bus (fAddr c.regs.prpage (c.regs.pc + 1)) h) :
    seen ((cycles (1 + (N.toNat + 1))).run c) = seen ((iter h (N.toNat + 1)).run c) ∧
    ∀ c', (cycles (1 + (N.toNat + 1))).run c = .ok ((), c') → RepDone (c.regs.pc + 1) c c' := by
  have hb : loopBook (repBook (bumpPc c.regs)) = .ok (bumpPc c.regs) := by
    rw [book_rep_off _ (by rw [bumpPc_rep]; exact hrep)]
    exact book_loop_off _ (by rw [bumpPc_lp]; exact hlp)
  obtain ⟨accs, hc⟩ := cycle_fetches1 c hip hvp hfr _ hb
  have h1 : cycle.run c = .ok ((), { c with regs := { (bumpPc c.regs) with repc := N, rep := true }, log := accs ++ c.log }) :=
    hc.trans (then_ic ((hrun _ rfl).trans (rep_sets N _)) (.inr rfl))
  exact (Sim.silent h1 rfl ⟨⟨rfl, rfl, rfl, rfl, hlp, hie, hip, hvp, fun _ _ => rfl⟩, rfl, rfl⟩).seq
    (rep_sim (b0 := c.bus) ph hA hf c N) (ph.iter _) c rfl

end Teakra
