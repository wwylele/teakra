import Proofs.C09.Plain
import Proofs.C10.Rn
import Proofs.C03Exec
/-!
# C09 — real handlers are `Plain` (non-vacuity of the hypotheses of the counting theorems)

`RegOnly h f`: the handler `h` is the function `f` on the register file (it neither reads nor
writes bus, logs, latches).  `LoopFree f`: `f` keeps the loop registers, `prpage` and `ie`, and
commutes with erasing the loop state.  `RegPlain h`: `h` is some such `f`.  It is closed under
`pure`, `>>=` and a read of registers outside the loop state, so a handler is `RegPlain` when the
primitives of `Interp` it is made of are, and a `RegPlain` handler is `Plain` (`RegPlain.plain`).

The side conditions on a register update `g` are `keepAll r (g r)` and `g r.noLoop = (g r).noLoop`.
For a `g` that is a record update both hold by reducing projections.  Leave them as goals
(`refine RegPlain.modify _ (fun _ => ?_) fun _ => ?_`) and close them once `g` is known: a `rfl`
elaborated inside the term meets `?g r.noLoop = (?g r).noLoop`, and `⟨rfl, …⟩` on the folded term
makes the unifier identify two 243-field records.
-/
namespace Teakra
open Exec ExecLemmas Interp Sys

abbrev keepAll (r r' : Regs) : Prop :=
  r'.pc = r.pc ∧ r'.prpage = r.prpage ∧ r'.rep = r.rep ∧ r'.repc = r.repc ∧ r'.lp = r.lp ∧
    r'.bcn = r.bcn ∧ r'.bkrep = r.bkrep ∧ r'.ie = r.ie

def RegOnly {α : Type} (h : Exec α) (f : Regs → Except Stop (α × Regs)) : Prop :=
  ∀ c : Core, h.run c = (f c.regs).map fun x => (x.1, { c with regs := x.2 })

structure LoopFree {α : Type} (f : Regs → Except Stop (α × Regs)) : Prop where
  keep : ∀ r a r', f r = .ok (a, r') →
    r'.pc = r.pc ∧ r'.prpage = r.prpage ∧ r'.rep = r.rep ∧ r'.repc = r.repc ∧ r'.lp = r.lp ∧
    r'.bcn = r.bcn ∧ r'.bkrep = r.bkrep ∧ r'.ie = r.ie
  comm : ∀ r, f r.noLoop = (f r).map fun x => (x.1, x.2.noLoop)

theorem keepAll.refl (r : Regs) : keepAll r r := ⟨rfl, rfl, rfl, rfl, rfl, rfl, rfl, rfl⟩

theorem keepAll.trans {r₁ r₂ r₃ : Regs} (h : keepAll r₁ r₂) (g : keepAll r₂ r₃) : keepAll r₁ r₃ :=
  ⟨g.1.trans h.1, g.2.1.trans h.2.1, g.2.2.1.trans h.2.2.1, g.2.2.2.1.trans h.2.2.2.1,
   g.2.2.2.2.1.trans h.2.2.2.2.1, g.2.2.2.2.2.1.trans h.2.2.2.2.2.1, g.2.2.2.2.2.2.1.trans h.2.2.2.2.2.2.1,
   g.2.2.2.2.2.2.2.trans h.2.2.2.2.2.2.2⟩

theorem LoopFree.ok {α : Type} (v : Regs → α) (g : Regs → Regs) (hv : ∀ r, v r.noLoop = v r)
    (hk : ∀ r, keepAll r (g r)) (hc : ∀ r, g r.noLoop = (g r).noLoop) :
    LoopFree (fun r => (.ok (v r, g r) : Except Stop (α × Regs))) :=
  ⟨fun r a r' h => by cases h; exact hk r, fun r => by show Except.ok _ = Except.ok _; rw [hc, hv]⟩

theorem LoopFree.pure {α : Type} (a : α) : LoopFree (fun r => (.ok (a, r) : Except Stop (α × Regs))) :=
  LoopFree.ok (fun _ => a) id (fun _ => rfl) keepAll.refl fun _ => rfl

theorem LoopFree.modify (g : Regs → Regs) (hk : ∀ r, keepAll r (g r)) (hc : ∀ r, g r.noLoop = (g r).noLoop) :
    LoopFree (fun r => (.ok ((), g r) : Except Stop (Unit × Regs))) :=
  LoopFree.ok (fun _ => ()) g (fun _ => rfl) hk hc

theorem LoopFree.error {α : Type} (e : Stop) : LoopFree (fun _ => (.error e : Except Stop (α × Regs))) :=
  ⟨fun r a r' h => (by cases h), fun _ => rfl⟩

theorem LoopFree.bind {α β : Type} {f : Regs → Except Stop (α × Regs)}
    {g : α → Regs → Except Stop (β × Regs)} (hf : LoopFree f) (hg : ∀ a, LoopFree (g a)) :
    LoopFree (fun r => f r >>= fun x => g x.1 x.2) := by
  constructor
  · intro r b r' h
    obtain ⟨x, hfr, hgx⟩ := Except.bind_eq_ok.mp h
    exact keepAll.trans (hf.keep r x.1 x.2 hfr) ((hg x.1).keep x.2 b r' hgx)
  · intro r
    show (f r.noLoop >>= fun x => g x.1 x.2) = _
    rw [hf.comm r]
    cases f r with
    | error e => rfl
    | ok x => exact (hg x.1).comm x.2

theorem RegOnly.pure {α : Type} (a : α) : RegOnly (pure a : Exec α) (fun r => .ok (a, r)) := fun _ => rfl

theorem RegOnly.modify (g : Regs → Regs) : RegOnly (modifyRegs g) (fun r => .ok ((), g r)) := fun _ => rfl

theorem RegOnly.bind {α β : Type} {h : Exec α} {k : α → Exec β} {f : Regs → Except Stop (α × Regs)}
    {g : α → Regs → Except Stop (β × Regs)} (hh : RegOnly h f) (hk : ∀ a, RegOnly (k a) (g a)) :
    RegOnly (h >>= k) (fun r => f r >>= fun x => g x.1 x.2) := by
  intro c
  rw [run_bind, hh c]
  show _ = Except.map _ (f c.regs >>= fun x => g x.1 x.2)
  cases f c.regs with
  | error e => rfl
  | ok x => exact hk x.1 _

def RegPlain {α : Type} (h : Exec α) : Prop := ∃ f, RegOnly h f ∧ LoopFree f

theorem RegPlain.pure {α : Type} (a : α) : RegPlain (pure a : Exec α) := ⟨_, RegOnly.pure a, LoopFree.pure a⟩

theorem RegPlain.modify (g : Regs → Regs) (hk : ∀ r, keepAll r (g r)) (hc : ∀ r, g r.noLoop = (g r).noLoop) :
    RegPlain (modifyRegs g) :=
  ⟨_, RegOnly.modify g, LoopFree.modify g hk hc⟩

theorem RegPlain.unreachable {α : Type} : RegPlain (Exec.unreachable : Exec α) :=
  ⟨_, fun _ => rfl, LoopFree.error (.abort .assert)⟩

theorem RegPlain.bind {α β : Type} {h : Exec α} {k : α → Exec β} (hh : RegPlain h) (hk : ∀ a, RegPlain (k a)) :
    RegPlain (h >>= k) := by
  obtain ⟨f, hf, lf⟩ := hh
  obtain ⟨g, hg⟩ := Classical.axiomOfChoice hk
  exact ⟨_, hf.bind fun a => (hg a).1, lf.bind fun a => (hg a).2⟩

theorem RegPlain.read {α β : Type} (v : Regs → α) (hv : ∀ r, v r.noLoop = v r) {k : α → Exec β}
    (hk : ∀ a, RegPlain (k a)) : RegPlain (getRegs >>= fun r => k (v r)) := by
  obtain ⟨g, hg⟩ := Classical.axiomOfChoice hk
  refine ⟨fun r => g (v r) r, fun c => (hg (v c.regs)).1 c, fun r a r' h => (hg (v r)).2.keep r a r' h, fun r => ?_⟩
  show g (v r.noLoop) r.noLoop = _
  rw [hv]
  exact (hg (v r)).2.comm r

theorem RegPlain.ite {β : Type} (p : Regs → Bool) (hp : ∀ r, p r.noLoop = p r) {h₁ h₂ : Exec β}
    (H₁ : RegPlain h₁) (H₂ : RegPlain h₂) : RegPlain (getRegs >>= fun r => if p r then h₁ else h₂) :=
  RegPlain.read p hp (k := fun b => if b = true then h₁ else h₂) fun | false => H₂ | true => H₁

theorem RegPlain.plain (A : U32 → Prop) {h : Exec Unit} (hp : RegPlain h) : Plain A h := by
  obtain ⟨f, hr, hf⟩ := hp
  constructor
  · intro c c' hrun
    rw [hr c] at hrun
    obtain ⟨x, hfr, hx⟩ := Except.map_eq_ok.mp hrun
    cases hx
    obtain ⟨a1, a2, a3, a4, a5, a6, a7, a8⟩ := hf.keep c.regs x.1 x.2 hfr
    exact ⟨a1, a2, a3, a4, a5, a6, a7, a8, rfl, rfl, fun _ _ => rfl⟩
  · intro c₁ c₂ hv
    have hregs : c₁.regs.noLoop = c₂.regs.noLoop := congrArg Core.regs hv
    have key : ∀ c : Core, seen (h.run c) =
        (f c.regs.noLoop).map fun x => ({ loopView c with regs := x.2 } : Core) := by
      intro c
      rw [hr c, hf.comm c.regs]
      cases f c.regs <;> rfl
    rw [key, key, hregs]
    cases f c₂.regs.noLoop with
    | error e => rfl
    | ok x =>
      show Except.ok _ = Except.ok _
      congr 1
      have := hv
      simp only [loopView, Core.mk.injEq] at this ⊢
      exact ⟨trivial, this.2⟩

theorem plain_nop (A : U32 → Prop) : Plain A Exec.nop := Plain.pure A

theorem plain_load_page (A : U32 → Prop) (a : Nat) : Plain A (Exec.load_page_Imm8 a) :=
  RegPlain.plain A (RegPlain.modify _ (fun _ => keepAll.refl _) fun _ => rfl)

theorem plain_load_modi (A : U32 → Prop) (a : Nat) : Plain A (Exec.load_modi_Imm9 a) :=
  RegPlain.plain A (RegPlain.modify _ (fun _ => keepAll.refl _) fun _ => rfl)

theorem regPlain_rnAndModify (unit : Nat) (step : StepValue) (dmod : Bool) : RegPlain (rnAndModify unit step dmod) :=
  ⟨fun r => .ok (r.r.toArray.getD unit 0, { r with r := vset r.r unit (rnNext r unit step dmod) }),
    rnAndModify_run unit step dmod,
    LoopFree.ok _ _ (fun _ => rfl) (fun _ => by simp only [keepAll, and_self]) fun r => by
        have h : rnNext r.noLoop unit step dmod = rnNext r unit step dmod := rfl
        rw [h]; rfl⟩

/-- `modr (Rn), step` (address-register post-modification, the typical body of a `rep`):
`RnAndModify`, then `fr := (Rn == 0)`. -/
theorem plain_modr (A : U32 → Prop) (a as_ : Nat) : Plain A (Exec.modr_Rn_StepZIDS a as_) := by
  refine RegPlain.plain A <| (regPlain_rnAndModify a _ false).bind fun _ => RegPlain.modify _ (fun _ => ?_) fun _ => ?_
  · simp only [keepAll, and_self]
  · rfl

/-! ## accumulator arithmetic: `add Ab, Bx`, `sub Ab, Bx` (all operand values) -/

theorem regPlain_getAcc (name : RegName) : RegPlain (getAcc name) := by
  unfold getAcc
  cases accIndex name with
  | none => exact RegPlain.read (fun _ => ()) (fun _ => rfl) fun _ => RegPlain.unreachable
  | some k =>
    obtain ⟨b, i⟩ := k
    cases b
    · exact RegPlain.read (accOf · (false, i)) (fun _ => rfl) RegPlain.pure
    · exact RegPlain.read (accOf · (true, i)) (fun _ => rfl) RegPlain.pure

theorem regPlain_setAcc (name : RegName) (value : U64) : RegPlain (setAcc name value) := by
  unfold setAcc
  cases accIndex name with
  | none => exact RegPlain.unreachable
  | some k =>
    obtain ⟨b, i⟩ := k
    cases b
    all_goals
      refine RegPlain.modify _ (fun _ => ?_) fun _ => ?_
      · simp only [keepAll, and_self]
      · rfl

theorem regPlain_addSub (a b : U64) (sub : Bool) : RegPlain (addSub a b sub) := by
  refine RegPlain.bind (RegPlain.modify _ (fun _ => ?_) fun _ => ?_) fun _ => RegPlain.pure _
  · simp only [keepAll, and_self]
  · rfl

theorem regPlain_saturateAcc (value : U64) : RegPlain (saturateAcc value) := by
  unfold saturateAcc
  obtain ⟨v, sat⟩ := Alu.saturate value
  cases sat
  · exact RegPlain.pure _
  · refine RegPlain.bind (RegPlain.modify _ (fun _ => ?_) fun _ => ?_) fun _ => RegPlain.pure _
    · simp only [keepAll, and_self]
    · rfl

theorem regPlain_satAndSet (name : RegName) (value : U64) : RegPlain (satAndSetAccAndFlag name value) := by
  unfold satAndSetAccAndFlag setAccFlag
  refine RegPlain.bind (RegPlain.modify _ (fun _ => ?_) fun _ => ?_) fun _ =>
    RegPlain.ite (fun r => r.sata == 0) (fun _ => rfl)
      ((regPlain_saturateAcc value).bind (regPlain_setAcc name)) ((RegPlain.pure value).bind (regPlain_setAcc name))
  · simp only [keepAll, and_self]
  · rfl

/-- `add Ab, Bx` (accumulator addition with carry / overflow / saturation flags) is plain, for
every operand encoding. -/
theorem plain_add_Ab_Bx (A : U32 → Prop) (a b : Nat) : Plain A (Exec.add_Ab_Bx a b) :=
  RegPlain.plain A <| (regPlain_getAcc _).bind fun vA => (regPlain_getAcc _).bind fun vB =>
    (regPlain_addSub vB vA false).bind fun res => regPlain_satAndSet _ res

theorem plain_sub_Ab_Bx (A : U32 → Prop) (a b : Nat) : Plain A (Exec.sub_Ab_Bx a b) :=
  RegPlain.plain A <| (regPlain_getAcc _).bind fun vA => (regPlain_getAcc _).bind fun vB =>
    (regPlain_addSub vB vA true).bind fun res => regPlain_satAndSet _ res

end Teakra
