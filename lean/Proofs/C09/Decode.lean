import Proofs.C09.Plain
import Proofs.Lemmas.Decoder
/-!
# C09 — the decoder on the opcodes used by the loop theorems (`rep`, `bkrep`, `break`, `nop`, `modr`)

Each opcode family is one entry of `instrTable`; the entry matches every word of the family
(`InstrPat.matches_add`) and no other entry does (`decoderArray_of_matches`), so the hypotheses
`Fetches1` / `Fetches2` / `Code` of the counting theorems reduce to statements about memory contents.
The number given to `of_entry` (0, 153, 155, 106, 176, 89) is the position of the entry in
`TeakraModel/Generated/InstrTable.lean`; the `rfl` behind it fails when the table is regenerated in
another order.
-/
namespace Teakra
open Exec ExecLemmas Interp Sys

/-- A one-word entry of the table that matches the word `n` read at `a`.  (Where the handler is
given, use it as `(Fetches1.of_entry i rfl … :)`: elaborated against the expected type,
`dispatch ?p.idx …` is compared with the handler before the entry `?p` is known, which is slow.) -/
theorem Fetches1.of_entry {b : Bus} {a : U32} {w : U16} {accs : List Access} {p : InstrPat} {n : Nat} (i : Nat)
    (hp : instrTable[i]? = some p) (hexp : p.expanded = false) (hread : b.programRead a = .ok (w, accs))
    (hn : w.toNat = n) (hm : p.matchesWord n = true) : Fetches1 b a (dispatch p.idx (p.extract n 0)) :=
  ⟨w, accs, p, hread, decoderArray_of_matches (List.mem_of_getElem? hp) w.isLt (hn ▸ hm), hexp, hn ▸ rfl⟩

theorem Fetches2.of_entry {b : Bus} {a a' : U32} {w w2 : U16} {accs accs2 : List Access} {p : InstrPat} {n : Nat}
    (i : Nat) (hp : instrTable[i]? = some p) (hexp : p.expanded = true) (hread : b.programRead a = .ok (w, accs))
    (hread2 : b.programRead a' = .ok (w2, accs2)) (hn : w.toNat = n) (hm : p.matchesWord n = true) :
    Fetches2 b a a' (dispatch p.idx (p.extract n w2.toNat)) :=
  ⟨w, w2, accs, accs2, p, hread, decoderArray_of_matches (List.mem_of_getElem? hp) w.isLt (hn ▸ hm), hexp, hread2,
    hn ▸ rfl⟩

theorem fetches_nop (b : Bus) (a : U32) (accs : List Access) (hread : b.programRead a = .ok (0, accs)) :
    Fetches1 b a Exec.nop :=
  (Fetches1.of_entry 0 rfl rfl hread rfl rfl :)

theorem fetches_rep_imm8 (b : Bus) (a : U32) (accs : List Access) (k : Nat) (hk : k < 256)
    (hread : b.programRead a = .ok (BitVec.ofNat 16 (0x0C00 + k), accs)) :
    Fetches1 b a (Exec.rep_Imm8 k) := by
  have h := Fetches1.of_entry 153 rfl rfl hread (toNat_ofNat16 _ (by omega))
    (InstrPat.matches_add 8 hk rfl rfl rfl rfl)
  have e : (0x0C00 + k) >>> 0 % 2 ^ 8 = k := by rw [Nat.shiftRight_zero]; omega
  exact e ▸ h

theorem fetches_rep_r6 (b : Bus) (a : U32) (accs : List Access) (hread : b.programRead a = .ok (2, accs)) :
    Fetches1 b a Exec.rep_r6 :=
  (Fetches1.of_entry 155 rfl rfl hread rfl rfl :)

theorem fetches_break (b : Bus) (a : U32) (accs : List Access) (hread : b.programRead a = .ok (0xD3C0, accs)) :
    Fetches1 b a Exec.break_ :=
  (Fetches1.of_entry 106 rfl rfl hread rfl rfl :)

theorem fetches_modr (b : Bus) (a : U32) (accs : List Access) (n st : Nat) (hn : n < 8) (hst : st < 4)
    (hread : b.programRead a = .ok (BitVec.ofNat 16 (0x0080 + (8 * st + n)), accs)) :
    Fetches1 b a (Exec.modr_Rn_StepZIDS n st) := by
  have h := Fetches1.of_entry 176 rfl rfl hread (toNat_ofNat16 _ (by omega))
    (InstrPat.matches_add 5 (by omega) rfl rfl rfl rfl)
  have e1 : (0x0080 + (8 * st + n)) >>> 0 % 2 ^ 3 = n := by rw [Nat.shiftRight_zero]; omega
  have e2 : (0x0080 + (8 * st + n)) >>> 3 % 2 ^ 2 = st := by rw [Nat.shiftRight_eq_div_pow]; omega
  change Fetches1 b a (Exec.modr_Rn_StepZIDS ((0x0080 + (8 * st + n)) >>> 0 % 2 ^ 3)
    ((0x0080 + (8 * st + n)) >>> 3 % 2 ^ 2)) at h
  rwa [e1, e2] at h

theorem fetches_bkrep_imm8 (b : Bus) (a a' : U32) (accs accs2 : List Access) (k : Nat) (hk : k < 256)
    (w2 : U16) (hread : b.programRead a = .ok (BitVec.ofNat 16 (0x5C00 + k), accs))
    (hread2 : b.programRead a' = .ok (w2, accs2)) :
    Fetches2 b a a' (Exec.bkrep_Imm8_Address16 k w2.toNat) := by
  have h := Fetches2.of_entry 89 rfl rfl hread hread2 (toNat_ofNat16 _ (by omega))
    (InstrPat.matches_add 8 hk rfl rfl rfl rfl)
  have e : (0x5C00 + k) >>> 0 % 2 ^ 8 = k := by rw [Nat.shiftRight_zero]; omega
  have e2 : w2.toNat % 2 ^ 16 = w2.toNat := Nat.mod_eq_of_lt w2.isLt
  exact e ▸ e2 ▸ h

end Teakra
