import Proofs.Lemmas.CoreBus
/-!
# C09 — `StoreBlockRepeat` / `RestoreBlockRepeat`: the pure parts

`busWrite` / `busRead` are `MemoryInterface::DataWrite` / `DataRead` as functions on the machine
state (`Core.busWrite` / `Core.busRead` of `Proofs/Lemmas/CoreBus.lean`); they never look at or
change the register file.  The two handlers are four bus accesses at consecutive addresses below /
above the address register and a pure function on the register file: `storePop` for the store,
`restoreShift`, `restoreValid`, `restoreFrame` for the restore; `packFlag` / `low16` and
`unpackStart` / `unpackEnd` are the bit packing of the frame.
-/
namespace Teakra
open Exec ExecLemmas Interp Sys

def busWrite (c : Core) (addr v : U16) : Except Stop Core :=
  match c.bus.dataWrite addr v false with
  | .ok (bus, evs, accs) => .ok (({ c with bus := bus, log := accs.reverse ++ c.log } : Core).emit evs)
  | .error e => .error (.abort e)

def busRead (c : Core) (addr : U16) : Except Stop (U16 × Core) :=
  match c.bus.dataRead addr false with
  | .ok (v, bus, evs, accs) => .ok (v, ({ c with bus := bus, log := accs.reverse ++ c.log } : Core).emit evs)
  | .error e => .error (.abort e)

theorem busWrite_eq (c : Core) (addr v : U16) : busWrite c addr v = c.busWrite addr v := rfl
theorem busRead_eq (c : Core) (addr : U16) : busRead c addr = c.busRead addr := rfl

theorem busWrite_keeps (c c' : Core) (addr v : U16) (h : busWrite c addr v = .ok c') : c'.regs = c.regs :=
  (busWrite_frame c c' addr v h).1

theorem busRead_keeps (c c' : Core) (addr v : U16) (h : busRead c addr = .ok (v, c')) : c'.regs = c.regs := by
  unfold busRead at h
  cases hd : c.bus.dataRead addr false with
  | error e => rw [hd] at h; cases h
  | ok x =>
    rw [hd] at h
    cases h
    rw [Core.emit_eq]
    rfl

/-! ## `StoreBlockRepeat` -/

def low16 (x : U32) : U16 := (x &&& 0xFFFF).setWidth 16

/-- The flag word `StoreBlockRepeat` writes: `lp << 15 | start >> 16 | (end >> 16) << 8`, each
`|=` truncated to `u16`. -/
def packFlag (lp : U16) (f : BkFrame) : U16 :=
  let flag : U16 := lp <<< 15
  let flag : U16 := (flag.setWidth 32 ||| (f.start >>> 16)).setWidth 16
  (flag.setWidth 32 ||| ((f.end_ >>> 16) <<< 8)).setWidth 16

/-- What `StoreBlockRepeat` does to the loop registers after the four writes: with `lp` set, the
frames above frame 0 (the outermost block) move down one slot and `bcn` is decremented (`lp` is
cleared when that makes it 0); `oob` when `bcn` is outside 1 … 4 (`std::copy` over an invalid
range). -/
def storePop (r : Regs) : Except Stop Regs :=
  if r.lp != 0 then
    if r.bcn.toNat == 0 || r.bcn.toNat > 4 then .error (.abort .oob)
    else
      let r1 : Regs :=
        { r with bkrep := Vector.ofFn fun (k : Fin 4) =>
                   if k.val + 1 < r.bcn.toNat then r.bkrep.toArray.getD (k.val + 1) {} else r.bkrep[k],
                 bcn := r.bcn - 1 }
      .ok (if r1.bcn == 0 then { r1 with lp := 0 } else r1)
  else .ok r

/-! ## `RestoreBlockRepeat` -/

/-- `RestoreBlockRepeat`, first step: with `lp` set, `ASSERT(bcn <= 3)`, the frames move up one
slot (`std::copy_backward`) and `bcn` is incremented. -/
def restoreShift (r : Regs) : Except Stop Regs :=
  if r.lp != 0 then
    if r.bcn.toNat ≤ 3 then
      .ok { r with bkrep := Vector.ofFn fun (k : Fin 4) =>
                     if 1 ≤ k.val ∧ k.val ≤ r.bcn.toNat then r.bkrep.toArray.getD (k.val - 1) {} else r.bkrep[k],
                   bcn := r.bcn + 1 }
    else .error (.abort .assert)
  else .ok r

def validOf (flag : U16) : U16 := ((flag.setWidth 32 : U32) >>> 15).setWidth 16

/-- Second step, after the flag word has been read: inside a loop the saved frame must be valid
(`ASSERT`); outside, a valid saved frame switches the loop state on (`bcn = 1`, `lp = 1`). -/
def restoreValid (r : Regs) (flag : U16) : Except Stop Regs :=
  if r.lp != 0 then (if validOf flag != 0 then .ok r else .error (.abort .assert))
  else .ok (if validOf flag != 0 then { r with bcn := 1, lp := 1 } else r)

def unpackEnd (flag e : U16) : U32 := e.setWidth 32 ||| ((((flag.setWidth 32 : U32) >>> 8) &&& 3) <<< 16)
def unpackStart (flag s : U16) : U32 := s.setWidth 32 ||| (((flag.setWidth 32 : U32) &&& 3) <<< 16)

/-- Last step: frame 0 is what the four words say. -/
def restoreFrame (r : Regs) (flag e s lc : U16) : Regs :=
  { r with bkrep := r.bkrep.set 0 { start := unpackStart flag s, end_ := unpackEnd flag e, lc := lc } }

/-- The frame the four words describe (`flag` already widened to 32 bits, as in the C++). -/
def frameOf (flag : U32) (e s lc : U16) : BkFrame :=
  { start := s.setWidth 32 ||| ((flag &&& 3) <<< 16), end_ := e.setWidth 32 ||| (((flag >>> 8) &&& 3) <<< 16), lc := lc }

end Teakra
