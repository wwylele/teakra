import Proofs.C09.Frame
/-!
# C09 — closed forms of `StoreBlockRepeat` and `RestoreBlockRepeat`

Each step of the two handlers has a lemma "the step followed by any `k`": an access
(`writePreDec'_bind`, `readPostInc'_bind`), a write to frame 0 (`setFrame'_bind`), the guarded shift
and the valid check of the restore (`restoreShift_bind`, `restoreValid_bind`); the pop of the store
is its last step (`storePop_run`).  The closed forms step through the handlers with them.

The model's `readPostInc`, `writePreDec`, `setFrame` are private, so the step lemmas speak of public
copies (`readPostInc'`, …) and are applied as `refine (…_bind …).trans ?_`, which matches a step of
the model up to unfolding; `rw` would not.  An `if` followed by more statements is a join point:
the lemmas about one have it in the shape the `do` notation gives it, with the rest as a variable.
-/
namespace Teakra
open Exec ExecLemmas Interp Sys

/-- An address register that behaves like a variable of its own: reading gives what was written, and
it is independent of the loop registers.  The model calls the two handlers with `regs.sp`
(`bkrepsto_memsp`, `bkreprst_memsp`) and `regs.r[unit]` (`…_ArRn2`), which are lawful (`lawful_sp`,
`lawful_rn`); the closed forms below are stated for any lawful `ar` and instantiated nowhere. -/
structure Exec.RegRef.Lawful (ar : Exec.RegRef) : Prop where
  get_set : ∀ r v, ar.get (ar.set r v) = v
  set_set : ∀ r v w, ar.set (ar.set r v) w = ar.set r w
  bkrep_set : ∀ r v, (ar.set r v).bkrep = r.bkrep
  lp_set : ∀ r v, (ar.set r v).lp = r.lp
  bcn_set : ∀ r v, (ar.set r v).bcn = r.bcn
  set_bkrep : ∀ r v bk, ar.set { r with bkrep := bk } v = { ar.set r v with bkrep := bk }
  set_bcn : ∀ r v x, ar.set { r with bcn := x } v = { ar.set r v with bcn := x }
  set_lp : ∀ r v x, ar.set { r with lp := x } v = { ar.set r v with lp := x }
  get_bkrep : ∀ r bk, ar.get { r with bkrep := bk } = ar.get r
  get_bcn : ∀ r x, ar.get { r with bcn := x } = ar.get r
  get_lp : ∀ r x, ar.get { r with lp := x } = ar.get r

theorem Exec.RegRef.lawful_sp : Exec.RegRef.Lawful Exec.RegRef.sp :=
  ⟨fun _ _ => rfl, fun _ _ _ => rfl, fun _ _ => rfl, fun _ _ => rfl, fun _ _ => rfl,
   fun _ _ _ => rfl, fun _ _ _ => rfl, fun _ _ _ => rfl, fun _ _ => rfl, fun _ _ => rfl, fun _ _ => rfl⟩

theorem Exec.RegRef.lawful_rn (unit : Nat) (hu : unit < 8) : Exec.RegRef.Lawful (Exec.RegRef.rn unit) := by
  refine ⟨?_, ?_, fun _ _ => rfl, fun _ _ => rfl, fun _ _ => rfl, fun _ _ _ => rfl, fun _ _ _ => rfl,
    fun _ _ _ => rfl, fun _ _ => rfl, fun _ _ => rfl, fun _ _ => rfl⟩
  · intro r v
    simp [Exec.RegRef.rn, vset, hu]
  · intro r v w
    simp [Exec.RegRef.rn, vset, hu]

/-! ## public copies of the private helpers; one step followed by the rest -/

/-- `regs.bkrep_stack[i] = f(…)` (public copy of the private helper of `Exec/Control.lean`). -/
def setFrame' (r : Regs) (i : Nat) (f : BkFrame → BkFrame) : Regs :=
  if h : i < 4 then { r with bkrep := r.bkrep.set i (f r.bkrep[i]) } else r

theorem setFrame'_zero (r : Regs) (f : BkFrame → BkFrame) :
    setFrame' r 0 f = { r with bkrep := r.bkrep.set 0 (f r.bkrep[0]) } := dif_pos (by omega)

/-- `mem.DataRead(address_reg++)` -/
def readPostInc' (ar : Exec.RegRef) : Exec U16 := do
  let address := ar.get (← getRegs)
  modifyRegs fun r => ar.set r (address + 1)
  dataRead address

/-- `mem.DataWrite(--address_reg, v)` -/
def writePreDec' (ar : Exec.RegRef) (v : U16) : Exec Unit := do
  modifyRegs fun r => ar.set r (ar.get r - 1)
  dataWrite (ar.get (← getRegs)) v

theorem writePreDec'_bind {α : Type} {ar : Exec.RegRef} (hl : ar.Lawful) (c : Core) (R : Regs) (v : U16)
    (k : Unit → Exec α) :
    (writePreDec' ar v >>= k).run { c with regs := R } =
      busWrite c (ar.get R - 1) v >>= fun c' => (k ()).run { c' with regs := ar.set R (ar.get R - 1) } := by
  unfold writePreDec'
  rw [run_bind, run_bind, run_modifyRegs, except_ok_bind, snd_mk, run_getRegs_bind]
  show (dataWrite (ar.get (ar.set R (ar.get R - 1))) v).run { c with regs := ar.set R (ar.get R - 1) } >>= _ = _
  rw [hl.get_set, dataWrite_run, busWrite_setRegs, busWrite_eq]
  cases c.busWrite (ar.get R - 1) v <;> rfl

theorem readPostInc'_bind {α : Type} {ar : Exec.RegRef} (c : Core) (R : Regs) (k : U16 → Exec α) :
    (readPostInc' ar >>= k).run { c with regs := R } =
      busRead c (ar.get R) >>= fun x => (k x.1).run { x.2 with regs := ar.set R (ar.get R + 1) } := by
  unfold readPostInc'
  rw [run_bind, run_getRegs_bind, run_bind, run_modifyRegs, except_ok_bind, snd_mk]
  show (dataRead (ar.get R)).run { c with regs := ar.set R (ar.get R + 1) } >>= _ = _
  rw [dataRead_run, busRead_setRegs, busRead_eq]
  cases c.busRead (ar.get R) <;> rfl

theorem setFrame'_bind {α : Type} (c : Core) (R : Regs) (f : BkFrame → BkFrame) (k : Unit → Exec α) :
    (modifyRegs (fun r => setFrame' r 0 f) >>= k).run { c with regs := R } =
      (k ()).run { c with regs := setFrame' R 0 f } := rfl

/-! ## `StoreBlockRepeat` -/

theorem storePop_run (c : Core) :
    (do
      if (← getRegs).lp != 0 then
        let n := (← getRegs).bcn.toNat
        if n == 0 || n > 4 then abort .oob
        modifyRegs fun r =>
          { r with bkrep := Vector.ofFn fun (k : Fin 4) =>
                     if k.val + 1 < n then r.bkrep.toArray.getD (k.val + 1) {} else r.bkrep[k],
                   bcn := r.bcn - 1 }
        if (← getRegs).bcn == 0 then modifyRegs fun r => { r with lp := 0 } : Exec Unit).run c =
      (storePop c.regs).map fun r => ((), { c with regs := r }) := by
  rw [run_getRegs_bind]
  unfold storePop
  by_cases hlp : (c.regs.lp != 0) = true
  · rw [if_pos hlp, if_pos hlp, run_getRegs_bind]
    dsimp only
    by_cases hg : (c.regs.bcn.toNat == 0 || decide (c.regs.bcn.toNat > 4)) = true
    · rw [if_pos hg, if_pos hg]; rfl
    · rw [if_neg hg, if_neg hg]
      rw [run_bind, run_modifyRegs, except_ok_bind, snd_mk, run_getRegs_bind]
      rw [run_ite_modifyRegs]
      rfl
  · rw [if_neg hlp, if_neg hlp]; rfl

/-- **`StoreBlockRepeat`, closed form.**  With `a` the address register and `f` frame 0
(`bkrep_stack[0]`, the outermost block): the words `f.lc`, `f.start & 0xFFFF`, `f.end & 0xFFFF` and
the flag word `packFlag lp f` are written to `a-1, a-2, a-3, a-4` in this order, the address
register ends at `a - 4`, and the loop registers are popped by `storePop`. -/
theorem storeBlockRepeat_run {ar : Exec.RegRef} (hl : ar.Lawful) (c : Core) :
    (Exec.storeBlockRepeat ar).run c =
      busWrite c (ar.get c.regs - 1) c.regs.bkrep[0].lc >>= fun c1 =>
      busWrite c1 (ar.get c.regs - 1 - 1) (low16 c.regs.bkrep[0].start) >>= fun c2 =>
      busWrite c2 (ar.get c.regs - 1 - 1 - 1) (low16 c.regs.bkrep[0].end_) >>= fun c3 =>
      busWrite c3 (ar.get c.regs - 1 - 1 - 1 - 1) (packFlag c.regs.lp c.regs.bkrep[0]) >>= fun c4 =>
      (storePop (ar.set c.regs (ar.get c.regs - 1 - 1 - 1 - 1))).map fun r => ((), { c4 with regs := r }) := by
  unfold Exec.storeBlockRepeat
  show StateT.run _ { c with regs := c.regs } = _
  rw [run_getRegs_bind]
  refine (writePreDec'_bind hl c _ _ _).trans (congrArg _ (funext fun c1 => ?_))
  rw [run_getRegs_bind]
  refine (writePreDec'_bind hl c1 _ _ _).trans ?_
  rw [hl.get_set, hl.set_set, hl.bkrep_set]
  refine congrArg _ (funext fun c2 => ?_)
  rw [run_getRegs_bind]
  refine (writePreDec'_bind hl c2 _ _ _).trans ?_
  rw [hl.get_set, hl.set_set, hl.bkrep_set]
  refine congrArg _ (funext fun c3 => ?_)
  rw [run_getRegs_bind]
  refine (writePreDec'_bind hl c3 _ _ _).trans ?_
  rw [hl.get_set, hl.set_set, hl.bkrep_set, hl.lp_set]
  exact congrArg _ (funext fun c4 => storePop_run _)

/-! ## `RestoreBlockRepeat` -/

theorem restoreShift_bind {α : Type} (k : Exec α) (c : Core) :
    (do
      if (← getRegs).lp != 0 then
        assert ((← getRegs).bcn.toNat ≤ 3)
        modifyRegs fun r =>
          let n := r.bcn.toNat
          { r with bkrep := Vector.ofFn fun (k : Fin 4) =>
                     if 1 ≤ k.val ∧ k.val ≤ n then r.bkrep.toArray.getD (k.val - 1) {} else r.bkrep[k],
                   bcn := r.bcn + 1 }
      k).run c = restoreShift c.regs >>= fun r0 => k.run { c with regs := r0 } := by
  unfold restoreShift
  rw [run_getRegs_bind, run_have]
  by_cases hlp : (c.regs.lp != 0) = true
  · rw [if_pos hlp, if_pos hlp, run_getRegs_bind, run_bind]
    by_cases hb : c.regs.bcn.toNat ≤ 3
    · rw [if_pos hb, decide_eq_true hb, run_assert_true, except_ok_bind, snd_mk, run_bind, run_modifyRegs,
        except_ok_bind, snd_mk]
      rfl
    · rw [if_neg hb, decide_eq_false hb, run_assert_false]
      rfl
  · rw [if_neg hlp, if_neg hlp]
    rfl

theorem restoreShift_get {ar : Exec.RegRef} (hl : ar.Lawful) {r r0 : Regs} (h : restoreShift r = .ok r0) :
    ar.get r0 = ar.get r := by
  unfold restoreShift at h
  by_cases hlp : (r.lp != 0) = true
  · rw [if_pos hlp] at h
    by_cases hb : r.bcn.toNat ≤ 3
    · rw [if_pos hb] at h
      cases h
      exact (show ∀ bk x, ar.get ({ r with bkrep := bk, bcn := x } : Regs) = ar.get r from fun bk x =>
        (hl.get_bcn { r with bkrep := bk } x).trans (hl.get_bkrep r bk)) _ _
    · rw [if_neg hb] at h
      cases h
  · rw [if_neg hlp] at h
    cases h
    rfl

theorem set_bcn_lp {ar : Exec.RegRef} (hl : ar.Lawful) (r : Regs) (v x y : U16) :
    ar.set { r with bcn := x, lp := y } v = { (ar.set r v) with bcn := x, lp := y } :=
  (hl.set_lp { r with bcn := x } v y).trans (by rw [hl.set_bcn])

theorem get_bcn_lp {ar : Exec.RegRef} (hl : ar.Lawful) (r : Regs) (x y : U16) :
    ar.get { r with bcn := x, lp := y } = ar.get r :=
  (hl.get_lp { r with bcn := x } y).trans (hl.get_bcn r x)

/-- `ar.set R v`: the address register has moved on to `v` when the saved valid bit is checked. -/
theorem restoreValid_bind {α : Type} {ar : Exec.RegRef} (hl : ar.Lawful) (flag v : U16) (k : Exec α) (c : Core)
    (R : Regs) :
    (do
      if (← getRegs).lp != 0 then
        assert (validOf flag != 0)
      else
        if validOf flag != 0 then modifyRegs fun r => { r with bcn := 1, lp := 1 }
      k).run { c with regs := ar.set R v } =
      restoreValid R flag >>= fun r1 => k.run { c with regs := ar.set r1 v } := by
  rw [run_getRegs_bind, run_have, hl.lp_set]
  unfold restoreValid
  by_cases hlp : (R.lp != 0) = true
  · rw [if_pos hlp, if_pos hlp]
    by_cases hv : (validOf flag != 0) = true
    · rw [if_pos hv, hv, run_bind, run_assert_true]
      rfl
    · rw [if_neg hv, Bool.not_eq_true _ |>.mp hv, run_bind, run_assert_false]
      rfl
  · rw [if_neg hlp, if_neg hlp]
    by_cases hv : (validOf flag != 0) = true
    · rw [if_pos hv, if_pos hv, run_modifyRegs_bind, ← set_bcn_lp hl]
      rfl
    · rw [if_neg hv, if_neg hv]
      rfl

theorem setFrame'_set {ar : Exec.RegRef} (hl : ar.Lawful) (r : Regs) (v : U16) (f : BkFrame → BkFrame) :
    setFrame' (ar.set r v) 0 f = ar.set (setFrame' r 0 f) v := by
  rw [setFrame'_zero, setFrame'_zero]
  refine Eq.trans ?_ (hl.set_bkrep r v _).symm
  exact congrArg (fun bk : Vector BkFrame 4 => ({ (ar.set r v) with bkrep := bk.set 0 (f bk[0]) } : Regs))
    (hl.bkrep_set r v)

theorem get_setFrame' {ar : Exec.RegRef} (hl : ar.Lawful) (r : Regs) (f : BkFrame → BkFrame) :
    ar.get (setFrame' r 0 f) = ar.get r := by
  rw [setFrame'_zero]; exact hl.get_bkrep _ _

theorem setFrame'_three (R : Regs) (S E : U32) (L : U16) :
    setFrame' (setFrame' (setFrame' R 0 fun f => { f with end_ := E }) 0 fun f => { f with start := S }) 0
      (fun f => { f with lc := L }) = { R with bkrep := R.bkrep.set 0 { start := S, end_ := E, lc := L } } := by
  simp only [setFrame'_zero, Vector.getElem_set_self, Vector.set_set]

/-- **`RestoreBlockRepeat`, closed form.**  With `a` the address register: shift the frames
(`restoreShift`), read the flag word at `a`, check / switch on the loop state (`restoreValid`), read
`end`, `start`, `lc` at `a+1, a+2, a+3`, leave the address register at `a + 4` and set frame 0 to
what the four words say (`restoreFrame`). -/
theorem restoreBlockRepeat_run {ar : Exec.RegRef} (hl : ar.Lawful) (c : Core) :
    (Exec.restoreBlockRepeat ar).run c =
      match restoreShift c.regs with
      | .error e => .error e
      | .ok r0 =>
        busRead c (ar.get c.regs) >>= fun x1 =>
        match restoreValid r0 x1.1 with
        | .error e => .error e
        | .ok r1 =>
          busRead x1.2 (ar.get c.regs + 1) >>= fun x2 =>
          busRead x2.2 (ar.get c.regs + 1 + 1) >>= fun x3 =>
          busRead x3.2 (ar.get c.regs + 1 + 1 + 1) >>= fun x4 =>
          .ok ((), { x4.2 with regs := restoreFrame (ar.set r1 (ar.get c.regs + 1 + 1 + 1 + 1)) x1.1 x2.1 x3.1 x4.1 }) := by
  unfold Exec.restoreBlockRepeat
  refine (restoreShift_bind _ c).trans ?_
  cases h0 : restoreShift c.regs with
  | error e => rfl
  | ok r0 =>
    rw [except_ok_bind]
    dsimp only
    refine (readPostInc'_bind c r0 _).trans ?_
    rw [restoreShift_get hl h0]
    refine congrArg _ (funext fun x1 => ?_)
    refine (restoreValid_bind hl x1.1 _ _ x1.2 r0).trans ?_
    cases restoreValid r0 x1.1 with
    | error e => rfl
    | ok r1 =>
      rw [except_ok_bind]
      dsimp only
      refine (readPostInc'_bind x1.2 _ _).trans ?_
      rw [hl.get_set, hl.set_set]
      refine congrArg _ (funext fun x2 => ?_)
      refine (setFrame'_bind x2.2 _ (fun f => { f with end_ := unpackEnd x1.1 x2.1 }) _).trans ?_
      refine (readPostInc'_bind x2.2 _ _).trans ?_
      rw [get_setFrame' hl, hl.get_set]
      refine congrArg _ (funext fun x3 => ?_)
      refine (setFrame'_bind x3.2 _ (fun f => { f with start := unpackStart x1.1 x3.1 }) _).trans ?_
      refine (readPostInc'_bind x3.2 _ _).trans ?_
      rw [get_setFrame' hl, hl.get_set]
      refine congrArg _ (funext fun x4 => ?_)
      show Except.ok ((), ({ x4.2 with regs := setFrame' _ 0 fun f => { f with lc := x4.1 } } : Core)) = _
      simp only [setFrame'_set hl, hl.set_set, setFrame'_three]
      rw [hl.set_bkrep, restoreFrame, hl.bkrep_set]

end Teakra
