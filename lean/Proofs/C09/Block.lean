import Proofs.C09.Plain
import Proofs.C09.Nest
/-!
# C09 — `bkrep`: the block is executed exactly `lc + 1` times

Straight-line blocks of plain one- and two-word instructions (`Code`; a two-word instruction may
also be the last one of the block: `end` is the address of its second word).  One instruction is one
loop body (`blk_step`), a pass over the block is the sequence of them (`blk_pass`), and `Sim.count`
over the frame's counter counts the passes (`bkrep_count`); the invariant is `BlkState`.
-/
namespace Teakra
open Exec ExecLemmas Interp Sys

def adv (r : Regs) (ℓ : Nat) : Regs := { r with pc := r.pc + BitVec.ofNat 32 ℓ }

theorem bumpPc_eq_adv (r : Regs) : bumpPc r = adv r 1 := rfl
theorem bumpPc2_eq_adv (r : Regs) : bumpPc (bumpPc r) = adv r 2 := by
  have : r.pc + 1 + 1 = r.pc + BitVec.ofNat 32 2 := BitVec.add_assoc r.pc 1 1
  unfold adv; rw [← this]; rfl

theorem ofNat32_inj {x y : Nat} (hx : x < 2 ^ 32) (hy : y < 2 ^ 32)
    (h : BitVec.ofNat 32 x = BitVec.ofNat 32 y) : x = y := by
  have := congrArg BitVec.toNat h
  rwa [BitVec.toNat_ofNat, BitVec.toNat_ofNat, Nat.mod_eq_of_lt hx, Nat.mod_eq_of_lt hy] at this

theorem ofNat32_toNat (x : U32) : BitVec.ofNat 32 x.toNat = x := by
  rw [BitVec.ofNat_toNat, BitVec.setWidth_eq]

/-- The program words at the (natural-number) address `a` of page `pg` are a plain instruction of
`ℓ` words (1 or 2) with handler `h`. -/
def FetchesL (b : Bus) (pg : U16) (a ℓ : Nat) (h : Exec Unit) : Prop :=
  (ℓ = 1 ∧ Fetches1 b (fAddr pg (BitVec.ofNat 32 a)) h) ∨
  (ℓ = 2 ∧ Fetches2 b (fAddr pg (BitVec.ofNat 32 a)) (fAddr pg (BitVec.ofNat 32 (a + 1))) h)

/-- The program words from address `a` up to `b` (exclusive) of page `pg` decode to the
straight-line instruction sequence with handlers `hs`. -/
inductive Code (bus : Bus) (pg : U16) : Nat → List (Exec Unit) → Nat → Prop
  | nil (a : Nat) : Code bus pg a [] a
  | cons {a ℓ b : Nat} {h : Exec Unit} {hs : List (Exec Unit)} :
      FetchesL bus pg a ℓ h → Code bus pg (a + ℓ) hs b → Code bus pg a (h :: hs) b

theorem FetchesL.len {b : Bus} {pg : U16} {a ℓ : Nat} {h : Exec Unit} (hf : FetchesL b pg a ℓ h) :
    1 ≤ ℓ ∧ ℓ ≤ 2 := by
  rcases hf with ⟨rfl, _⟩ | ⟨rfl, _⟩ <;> omega

theorem Code.le {bus : Bus} {pg : U16} {a b : Nat} {hs : List (Exec Unit)} (hc : Code bus pg a hs b) :
    a ≤ b ∧ (hs = [] → a = b) ∧ (hs ≠ [] → a < b) := by
  induction hc with
  | nil a => exact ⟨Nat.le_refl _, fun _ => rfl, fun h => absurd rfl h⟩
  | cons hf _ ih =>
    have := hf.len
    exact ⟨by omega, fun h => (List.cons_ne_nil _ _ h).elim, fun _ => by omega⟩

theorem cycle_plainL {A : U32 → Prop} {h : Exec Unit} (ph : Plain A h) (c : Core) {b0 : Bus} (pg : U16) (a ℓ : Nat)
    (hi : c.ipend = Vector.replicate 3 false) (hv : c.vpend = false)
    (hpc : c.regs.pc = BitVec.ofNat 32 a) (hpg : c.regs.prpage = pg)
    (hf : FetchesL b0 pg a ℓ h) (hp : ∀ x, A x → c.bus.programRead x = b0.programRead x)
    (hA : ∀ n, a ≤ n → n < a + ℓ → A (fAddr pg (BitVec.ofNat 32 n))) (r' : Regs)
    (hbook : loopBook (repBook (adv c.regs ℓ)) = .ok r') (hq : r'.ie = 0 ∨ r'.rep = true) :
    ∃ accs, cycle.run c = h.run { c with regs := r', log := accs ++ c.log } := by
  suffices ∃ accs, cycle.run c =
      StateT.run (do h; interruptCheck : Exec Unit) { c with regs := r', log := accs ++ c.log } from
    this.imp fun _ hc => hc.trans (plain_then_ic ph _ hq)
  have h1 : fetchAddress c.regs = fAddr pg (BitVec.ofNat 32 a) := by rw [fetchAddress_eq, hpc, hpg]
  have hw := hp _ (hA a (Nat.le_refl _) (by have := hf.len; omega))
  rcases hf with ⟨rfl, hf⟩ | ⟨rfl, hf⟩
  · exact cycle_fetches1 c hi hv (h1 ▸ hf.of_eq hw) r' hbook
  · have h2 : fetchAddress (bumpPc c.regs) = fAddr pg (BitVec.ofNat 32 (a + 1)) := by
      rw [fetchAddress_eq, bumpPc_pc, hpc, BitVec.ofNat_add]; exact congrArg (fAddr · _) hpg
    exact cycle_fetches2 c hi hv (h1 ▸ h2 ▸ hf.of_eq hw (hp _ (hA (a + 1) (by omega) (by omega)))) r'
      (by rw [bumpPc2_eq_adv]; exact hbook)

def blkFrame (s e : Nat) (n : U16) : BkFrame := { start := BitVec.ofNat 32 s, end_ := BitVec.ofNat 32 e, lc := n }

/-- The machine is inside the block repeat `s … e` (frame index `i`, nesting depth `bcn = i + 1`)
at address `a`, with loop counter `n`; `bk` are the other frames, `b0` the bus the program was read
from. -/
structure BlkState (A : U32 → Prop) (b0 : Bus) (pg : U16) (i : Fin 4) (s e : Nat) (bk : Vector BkFrame 4)
    (bcn : U16) (a : Nat) (n : U16) (c : Core) : Prop where
  pc : c.regs.pc = BitVec.ofNat 32 a
  prpage : c.regs.prpage = pg
  rep : c.regs.rep = false
  lp : c.regs.lp ≠ 0
  bcn : c.regs.bcn = bcn
  bkrep : c.regs.bkrep = bk.set i.1 (blkFrame s e n) i.2
  ie : c.regs.ie = 0
  ipend : c.ipend = Vector.replicate 3 false
  vpend : c.vpend = false
  prog : ∀ x, A x → c.bus.programRead x = b0.programRead x

/-- The block repeat `s … e` has just been left; `bcn` is the depth inside it, as in `BlkState`. -/
structure BlkExit (A : U32 → Prop) (b0 : Bus) (pg : U16) (i : Fin 4) (s e : Nat) (bk : Vector BkFrame 4)
    (bcn : U16) (c : Core) : Prop where
  pc : c.regs.pc = BitVec.ofNat 32 (e + 1)
  prpage : c.regs.prpage = pg
  rep : c.regs.rep = false
  lp : c.regs.lp = Alu.b2u (bcn - 1 != 0)
  bcn : c.regs.bcn = bcn - 1
  bkrep : c.regs.bkrep = bk.set i.1 (blkFrame s e 0) i.2
  ie : c.regs.ie = 0
  ipend : c.ipend = Vector.replicate 3 false
  vpend : c.vpend = false
  prog : ∀ x, A x → c.bus.programRead x = b0.programRead x

section
variable {A : U32 → Prop} {b0 : Bus} {pg : U16} {i : Fin 4} {s e : Nat} {bk : Vector BkFrame 4} {bcn : U16}

theorem BlkState.kept {a : Nat} {n : U16} {c c' : Core} (k : Kept A c c') (hs : BlkState A b0 pg i s e bk bcn a n c) :
    BlkState A b0 pg i s e bk bcn a n c' :=
  ⟨k.pc.trans hs.pc, k.prpage.trans hs.prpage, k.rep.trans hs.rep, fun h0 => hs.lp (k.lp.symm.trans h0),
   k.bcn.trans hs.bcn, k.bkrep.trans hs.bkrep, k.ie.trans hs.ie, k.ipend.trans hs.ipend, k.vpend.trans hs.vpend,
   fun x hx => (k.prog x hx).trans (hs.prog x hx)⟩

theorem BlkExit.kept {c c' : Core} (k : Kept A c c') (hs : BlkExit A b0 pg i s e bk bcn c) :
    BlkExit A b0 pg i s e bk bcn c' :=
  ⟨k.pc.trans hs.pc, k.prpage.trans hs.prpage, k.rep.trans hs.rep, k.lp.trans hs.lp,
   k.bcn.trans hs.bcn, k.bkrep.trans hs.bkrep, k.ie.trans hs.ie, k.ipend.trans hs.ipend, k.vpend.trans hs.vpend,
   fun x hx => (k.prog x hx).trans (hs.prog x hx)⟩

/-- Where the machine is once the bookkeeping has seen address `a` of the block with counter `n`:
inside the block; or, behind its last word, back at the start with the counter decremented, or —
when the counter was 0 — out of the block. -/
def BlkAt (A : U32 → Prop) (b0 : Bus) (pg : U16) (i : Fin 4) (s e : Nat) (bk : Vector BkFrame 4)
    (bcn : U16) (a : Nat) (n : U16) (c : Core) : Prop :=
  if a = e + 1 then (if n = 0 then BlkExit A b0 pg i s e bk bcn c else BlkState A b0 pg i s e bk bcn s (n - 1) c)
  else BlkState A b0 pg i s e bk bcn a n c

section
variable {a : Nat} {n : U16} {c c' : Core}

theorem BlkAt.inside (h : a ≠ e + 1) : BlkAt A b0 pg i s e bk bcn a n c ↔ BlkState A b0 pg i s e bk bcn a n c := by
  rw [BlkAt, if_neg h]
theorem BlkAt.back (h : n ≠ 0) :
    BlkAt A b0 pg i s e bk bcn (e + 1) n c ↔ BlkState A b0 pg i s e bk bcn s (n - 1) c := by
  rw [BlkAt, if_pos rfl, if_neg h]
theorem BlkAt.exit : BlkAt A b0 pg i s e bk bcn (e + 1) 0 c ↔ BlkExit A b0 pg i s e bk bcn c := by
  rw [BlkAt, if_pos rfl, if_pos rfl]

theorem BlkAt.kept (k : Kept A c c') (hs : BlkAt A b0 pg i s e bk bcn a n c) : BlkAt A b0 pg i s e bk bcn a n c' := by
  by_cases hae : a = e + 1
  · subst hae
    by_cases hn : n = 0
    · subst hn; exact BlkAt.exit.2 ((BlkAt.exit.1 hs).kept k)
    · exact (BlkAt.back hn).2 (((BlkAt.back hn).1 hs).kept k)
  · exact (BlkAt.inside hae).2 (((BlkAt.inside hae).1 hs).kept k)

end

/-- **One instruction of the block**: the loop body is the handler, run where the bookkeeping for
the next address has been done (`book_loop_inside`, `book_loop_back`, `book_loop_exit`). -/
theorem blk_step (hbcn : bcn.toNat = i.1 + 1) (he : e + 1 < 2 ^ 32)
    (hA : ∀ n, s ≤ n → n ≤ e → A (fAddr pg (BitVec.ofNat 32 n)))
    {h : Exec Unit} (ph : Plain A h) {a ℓ : Nat} (n : U16)
    (hf : FetchesL b0 pg a ℓ h) (hsa : s ≤ a) (hle : a + ℓ ≤ e + 1) :
    Sim 1 h (BlkState A b0 pg i s e bk bcn a n) (BlkAt A b0 pg i s e bk bcn (a + ℓ) n) := by
  refine Sim.step ph (fun _ _ k hs => hs.kept k) fun c hs => ?_
  have hcy := fun r' hb => cycle_plainL ph c pg a ℓ hs.ipend hs.vpend hs.pc hs.prpage hf hs.prog
    (fun m h1 h2 => hA m (by omega) (by omega)) r'
    ((congrArg loopBook (book_rep_off _ (show (adv c.regs ℓ).rep = false from hs.rep))).trans hb)
  have hb : (adv c.regs ℓ).bcn.toNat = i.1 + 1 := (congrArg BitVec.toNat hs.bcn).trans hbcn
  have hfr : (adv c.regs ℓ).bkrep[i.1]'i.2 = blkFrame s e n := by
    show c.regs.bkrep[i.1]'i.2 = _
    simp only [hs.bkrep, Vector.getElem_set_self]
  have hpc : c.regs.pc + BitVec.ofNat 32 ℓ = BitVec.ofNat 32 (a + ℓ) := by rw [hs.pc, ← BitVec.ofNat_add]
  have hend : ((adv c.regs ℓ).bkrep[i.1]'i.2).end_ + 1 = BitVec.ofNat 32 (e + 1) := by
    rw [hfr, BitVec.ofNat_add]; rfl
  by_cases hae : a + ℓ = e + 1
  · rw [hae] at hpc ⊢
    by_cases hn : n = 0
    · subst hn
      obtain ⟨accs, hc⟩ := hcy _ (book_loop_exit (adv c.regs ℓ) i.1 hs.lp hb i.2 (hend.trans hpc.symm) (by rw [hfr]; rfl)) (.inl hs.ie)
      exact ⟨_, hc, rfl, BlkAt.exit.2
        { hs with pc := hpc, lp := congrArg (fun x => Alu.b2u (x - 1 != 0)) hs.bcn, bcn := congrArg (· - 1) hs.bcn }⟩
    · obtain ⟨accs, hc⟩ := hcy _ (book_loop_back (adv c.regs ℓ) i.1 hs.lp hb i.2 (hend.trans hpc.symm) (by rw [hfr]; exact hn)) (.inl hs.ie)
      refine ⟨_, hc, rfl, (BlkAt.back hn).2 { hs with pc := congrArg BkFrame.start hfr, bkrep := ?_ }⟩
      show (adv c.regs ℓ).bkrep.set i.1 { ((adv c.regs ℓ).bkrep[i.1]'i.2) with lc := ((adv c.regs ℓ).bkrep[i.1]'i.2).lc - 1 } i.2 = _
      rw [hfr, show (adv c.regs ℓ).bkrep = _ from hs.bkrep, Vector.set_set]; rfl
  · obtain ⟨accs, hc⟩ := hcy _ (book_loop_inside (adv c.regs ℓ) i.1 hs.lp hb i.2 fun h => hae
      (ofNat32_inj (by omega) he (hpc.symm.trans (h.symm.trans hend)))) (.inl hs.ie)
    exact ⟨_, hc, rfl, (BlkAt.inside hae).2 { hs with pc := hpc }⟩

/-- **One pass over the rest of the block** from address `a`: the loop bodies are the handlers in
order. -/
theorem blk_pass (hbcn : bcn.toNat = i.1 + 1) (he : e + 1 < 2 ^ 32)
    (hA : ∀ n, s ≤ n → n ≤ e → A (fAddr pg (BitVec.ofNat 32 n))) (n : U16)
    {a b : Nat} {hs : List (Exec Unit)} (hc : Code b0 pg a hs b) (hb : b = e + 1) (hsa : s ≤ a)
    (hp : ∀ g ∈ hs, Plain A g) (hne : hs ≠ []) :
    Sim hs.length (seqH hs) (BlkState A b0 pg i s e bk bcn a n) (BlkAt A b0 pg i s e bk bcn (e + 1) n) := by
  induction hc with
  | nil a => exact absurd rfl hne
  | @cons a ℓ b h t hf hrest ih =>
    subst hb
    have hle := hrest.le
    have step := blk_step (bk := bk) hbcn he hA (hp h List.mem_cons_self) n hf hsa hle.1
    have hp' : ∀ g ∈ t, Plain A g := fun g hg => hp g (List.mem_cons_of_mem _ hg)
    rw [List.length_cons, Nat.add_comm]
    cases t with
    | nil => rw [hle.2.1 rfl] at step; exact step.seq (Sim.nil fun _ h => h) (Plain.pure A)
    | cons h' t' =>
      have hlt := hle.2.2 (List.cons_ne_nil _ _)
      exact (step.post fun c => (BlkAt.inside (Nat.ne_of_lt hlt)).1).seq
        (ih rfl (by have := hf.len; omega) hp' (List.cons_ne_nil _ _)) (Plain.seqH hp')

/-- **`bkrep`, counting**: a pass decrements the counter while it is not 0 and leaves the block
when it is 0. -/
theorem bkrep_count (hbcn : bcn.toNat = i.1 + 1) (he : e + 1 < 2 ^ 32)
    (hA : ∀ n, s ≤ n → n ≤ e → A (fAddr pg (BitVec.ofNat 32 n)))
    (h0 : Exec Unit) (t : List (Exec Unit)) (hp : ∀ g ∈ h0 :: t, Plain A g)
    (hc : Code b0 pg s (h0 :: t) (e + 1)) (N : U16) :
    Sim ((N.toNat + 1) * (t.length + 1)) (iter (seqH (h0 :: t)) (N.toNat + 1))
      (BlkState A b0 pg i s e bk bcn s N) (BlkExit A b0 pg i s e bk bcn) :=
  have pass := fun n => blk_pass (bk := bk) hbcn he hA n hc rfl (Nat.le_refl _) hp (List.cons_ne_nil _ _)
  Sim.count (Plain.seqH hp) (I := BlkState A b0 pg i s e bk bcn s)
    (fun n hn => (pass n).post fun _ => (BlkAt.back hn).1)
    ((pass 0).post fun _ => BlkAt.exit.1) N

end

/-- **`bkrep` executes its block exactly `lc + 1` times.**  The machine is at the start `s` of the
innermost block repeat `s … e` (frame `i`, `bcn = i + 1`, `lp` set) whose counter is `N` (any value
0 … 65535); interrupts are disabled and no latch is pending; the block consists of the plain one- or
two-word instructions with handlers `h0 :: t` (`Code`; a two-word instruction may be the last one).
Then `(N + 1) * k` loop bodies (`k` the number of instructions)

* give the outcome of executing the handler sequence `N + 1` times — equality of everything but the
  loop registers and the access log, aborts included — and
* end behind the block (`pc = e + 1`) with `bcn` decremented, `lp = (bcn - 1 ≠ 0)`, the frame's
  counter at 0 and every other frame untouched (`BlkExit`). -/
theorem bkrep_unrolled {A : U32 → Prop} {pg : U16} {i : Fin 4} {s e : Nat} {bk : Vector BkFrame 4} {bcn : U16}
    (hbcn : bcn.toNat = i.1 + 1) (he : e + 1 < 2 ^ 32)
    (hA : ∀ n, s ≤ n → n ≤ e → A (fAddr pg (BitVec.ofNat 32 n)))
    (h0 : Exec Unit) (t : List (Exec Unit)) (hp : ∀ g ∈ h0 :: t, Plain A g)
    (N : U16) (c : Core) (hc : Code c.bus pg s (h0 :: t) (e + 1))
    (hs : BlkState A c.bus pg i s e bk bcn s N c) :
    seen ((cycles ((N.toNat + 1) * (t.length + 1))).run c) =
      seen ((iter (seqH (h0 :: t)) (N.toNat + 1)).run c) ∧
    ∀ c', (cycles ((N.toNat + 1) * (t.length + 1))).run c = .ok ((), c') →
      BlkExit A c.bus pg i s e bk bcn c' :=
  bkrep_count hbcn he hA h0 t hp hc N c hs

/-- **The counter counts down once per iteration.**  Same setting; after `j ≤ N` passes the
machine is at the start of the block again and the frame's counter is `N - j`. -/
theorem bkrep_counter {A : U32 → Prop} {pg : U16} {i : Fin 4} {s e : Nat} {bk : Vector BkFrame 4} {bcn : U16}
    (hbcn : bcn.toNat = i.1 + 1) (he : e + 1 < 2 ^ 32)
    (hA : ∀ n, s ≤ n → n ≤ e → A (fAddr pg (BitVec.ofNat 32 n)))
    (h0 : Exec Unit) (t : List (Exec Unit)) (hp : ∀ g ∈ h0 :: t, Plain A g)
    (N : U16) (c : Core) (hc : Code c.bus pg s (h0 :: t) (e + 1))
    (hs : BlkState A c.bus pg i s e bk bcn s N c) (j : Nat) (hj : j ≤ N.toNat) (cj : Core)
    (hr : (cycles (j * (t.length + 1))).run c = .ok ((), cj)) :
    BlkState A c.bus pg i s e bk bcn s (N - BitVec.ofNat 16 j) cj :=
  Sim.count_at (I := BlkState A c.bus pg i s e bk bcn s)
    (fun n hn => (blk_pass hbcn he hA n hc rfl (Nat.le_refl _) hp (List.cons_ne_nil _ _)).post
      fun _ => (BlkAt.back hn).1) N c hs j hj cj hr

theorem bkrep_Imm8_run (a w : Nat) (x : Core) :
    (Exec.bkrep_Imm8_Address16 a w).run x =
      (Exec.blockRepeat (imm16 a) (BitVec.ofNat 32 w ||| (x.regs.pc &&& 0x30000))).run x := by
  unfold Exec.bkrep_Imm8_Address16
  rw [run_have, run_getRegs_bind, run_have]

theorem bkrep_r6_run (lo hi : Nat) (x : Core) :
    (Exec.bkrep_r6_Address18_16_Address18_2 lo hi).run x =
      (Exec.blockRepeat x.regs.r[6] (address18 lo hi)).run x := by
  unfold Exec.bkrep_r6_Address18_16_Address18_2
  rw [run_getRegs_bind, run_have, run_have]

/-- **`bkrep lc, end` followed by its block executes the block exactly `lc + 1` times**, for every
`lc` in 0 … 65535 and at every nesting depth `i = bcn < 4`.  `hb` is the handler of the two-word
`bkrep` instruction at `pc` (count from an immediate or a register: `hrun`); the block
`pc + 2 … end` consists of the plain instructions `h0 :: t`; the `bkrep` instruction is not itself
the last instruction of an enclosing block (`hbook`).  `1 + (lc + 1) * k` loop bodies give the
outcome of `lc + 1` executions of the block and end behind it with the frame popped (`BlkExit`:
`bcn` back to `i`, `lp = (i ≠ 0)`, the enclosing frames intact). -/
theorem bkrep_program {A : U32 → Prop} {i : Fin 4} (c : Core) (lc : U16) (addr : U32) (hb h0 : Exec Unit)
    (t : List (Exec Unit))
    (hrep : c.regs.rep = false) (hie : c.regs.ie = 0)
    (hip : c.ipend = Vector.replicate 3 false) (hvp : c.vpend = false)
    (hbcn : c.regs.bcn.toNat = i.1)
    (hbook : loopBook (adv c.regs 2) = .ok (adv c.regs 2))
    (hfb : Fetches2 c.bus (fetchAddress c.regs) (fetchAddress (bumpPc c.regs)) hb)
    (hrun : ∀ x : Core, x.regs = adv c.regs 2 → hb.run x = (Exec.blockRepeat lc addr).run x)
    (he : addr.toNat + 1 < 2 ^ 32)
    (hA : ∀ n, (c.regs.pc + 2).toNat ≤ n → n ≤ addr.toNat → A (fAddr c.regs.prpage (BitVec.ofNat 32 n)))
    (hp : ∀ g ∈ h0 :: t, Plain A g)
    (hc : Code c.bus c.regs.prpage (c.regs.pc + 2).toNat (h0 :: t) (addr.toNat + 1)) :
    seen ((cycles (1 + (lc.toNat + 1) * (t.length + 1))).run c) =
      seen ((iter (seqH (h0 :: t)) (lc.toNat + 1)).run c) ∧
    ∀ c', (cycles (1 + (lc.toNat + 1) * (t.length + 1))).run c = .ok ((), c') →
      BlkExit A c.bus c.regs.prpage i (c.regs.pc + 2).toNat addr.toNat c.regs.bkrep (c.regs.bcn + 1) c' := by
  have hbook' : loopBook (repBook (bumpPc (bumpPc c.regs))) = .ok (adv c.regs 2) := by
    rw [bumpPc2_eq_adv, book_rep_off _ (show (adv c.regs 2).rep = false from hrep)]; exact hbook
  obtain ⟨accs, hcy⟩ := cycle_fetches2 c hip hvp hfb _ hbook'
  -- the `bkrep` instruction itself: one loop body that pushes the frame and shows nothing else; the
  -- machine is then at the start of the block (the `BlkState` given to `Sim.silent`)
  have h1 := hcy.trans (then_ic ((hrun _ rfl).trans
    (blockRepeat_push lc addr { c with regs := adv c.regs 2, log := accs ++ c.log } i.1 hbcn i.2)) (.inl hie))
  have hb1 : (c.regs.bcn + 1).toNat = i.1 + 1 := by
    rw [BitVec.toNat_add, hbcn]
    have := i.2
    show (i.1 + 1) % 65536 = _
    omega
  refine (Sim.silent h1 rfl ⟨(ofNat32_toNat _).symm, rfl, hrep, (by decide : (1 : U16) ≠ 0), rfl, ?_, hie, hip, hvp,
    fun _ _ => rfl⟩).seq (bkrep_count hb1 he hA h0 t hp hc lc) ((Plain.seqH hp).iter _) c rfl
  show c.regs.bkrep.set i.1 { start := c.regs.pc + BitVec.ofNat 32 2, end_ := addr, lc := lc } i.2 = _
  unfold blkFrame
  rw [ofNat32_toNat, ofNat32_toNat]; rfl

end Teakra
