import TeakraModel.Generated.LockTable
import TeakraModel.Golden.LockTable
/-!
# C19 — the regenerated lock table equals the committed snapshot `Golden.table`

(`Golden.table` is the tree with both race repairs; the upstream tree's snapshot is `Upstream.table`,
`Proofs/C19Pinned.lean`.)

Kept apart from `Proofs/C19.lean`: when `apbp.cpp`, `icu.h`, `interpreter.h`, `processor.cpp`, `teakra.cpp`
or `mmio.cpp` change in a way that affects locking, *this* module stops building (and `checks/c19.py`
reports the differing rows), while the theorems of `Proofs.C19` are re-proved over the new table.
-/
namespace Teakra.Lock

theorem table_eq_golden : table = Golden.table := rfl

end Teakra.Lock
