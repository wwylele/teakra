import Proofs.Lemmas.Exec
import TeakraModel.Sys
/-!
# One iteration of `Interpreter::Run` (`Teakra.cycle`), split into its five steps

`cycle_run`:  `cycle` = latch (`latched`) → `fetch` → the two bookkeeping blocks as functions of the
register file (`repBook`, `loopBook`) → `exec1` (= `dispatch`) → `interruptCheck`.
`execPhase` is the part between the latch and the interrupt block (`cycle_entry_after_exec`).
Every statement "one `cycle` on such-and-such an instruction does X" in C02Fetch, C06Sys,
C08Stack and C09 starts from `cycle_one` / `cycle_two` (or `execPhase_run` with `fetch_one` / `fetch_two`); C07
starts from `cycle_spec` (`Cycle/Poll.lean`), and its statements about the latch phase stand here
(`latched_spec`, `latch_once`, `latch_no_spurious`).

`restK` is the text of `cycle` (`TeakraModel/Run.lean`) after the opcode fetch, copied, with the decoder
entry and the last statement as arguments; `cycle_latched` is what says the copy is faithful (the `hM ▸ rfl` in its
proof compares the two texts).
The decoder entry is an argument because the kernel must never evaluate the 65536-entry `decoderArray`.
The `do` block elaborates to nested join points (`have __do_jp := …`); rewriting is done with
`simp -zeta` / `rw` so that they are inlined one at a time (`run_have`) — full zeta-reduction
duplicates the continuation at every `if`.

Names under `Sys` are those of `TeakraModel/Sys.lean`'s namespace, where `fetchAddress` lives.
-/
namespace Teakra
open Exec ExecLemmas Interp Sys

/-! `latched c` is the state after the first two statements of the loop body of `Interpreter::Run`:
```
for i in 0..3: if (interrupt_pending[i].exchange(false)) regs.ip[i] = 1;
if (vinterrupt_pending.exchange(false)) regs.ipv = 1;
```
-/

/-- One iteration of the latch loop. -/
def Sys.latch1 (ip : Vector Bool 3) (i : Nat) (r : Regs) : Regs :=
  if ip.toArray.getD i false = true then { r with ip := vset r.ip i 1 } else r

/-- The registers after both latch steps (`interrupt_pending`, `vinterrupt_pending`). -/
def Sys.latchAll (c : Core) : Regs :=
  if c.vpend = true then { latch1 c.ipend 2 (latch1 c.ipend 1 (latch1 c.ipend 0 c.regs)) with ipv := 1 }
  else latch1 c.ipend 2 (latch1 c.ipend 1 (latch1 c.ipend 0 c.regs))

def Sys.latched (c : Core) : Core :=
  { c with regs := latchAll c, ipend := Vector.replicate 3 false, vpend := false }

def Sys.withIp (r : Regs) (ip : Vector U16 3) (ipv : U16) : Regs := { r with ip := ip, ipv := ipv }

/-- What `latch1` does to `ip` (`latch1_withIp`). -/
def latchLine (ipend : Vector Bool 3) (i : Nat) (ip : Vector U16 3) : Vector U16 3 :=
  if ipend.toArray.getD i false = true then vset ip i 1 else ip

def latchIp (ipend : Vector Bool 3) (ip : Vector U16 3) : Vector U16 3 :=
  latchLine ipend 2 (latchLine ipend 1 (latchLine ipend 0 ip))

theorem latchLine_get (ipend : Vector Bool 3) (ip : Vector U16 3) (i k : Nat) (hi : i < 3) (hk : k < 3) :
    (latchLine ipend i ip)[k] = if ipend[i] = true ∧ i = k then 1 else ip[k] := by
  unfold latchLine
  rw [toArray_getD _ _ hi]
  by_cases hb : ipend[i] = true
  · simp only [hb, if_true, true_and, getElem_vset _ _ _ _ hi hk]
  · rw [if_neg hb, if_neg (fun h => hb h.1)]

theorem latchIp_get (ipend : Vector Bool 3) (ip : Vector U16 3) (i : Nat) (h : i < 3) :
    (latchIp ipend ip)[i] = if ipend[i] = true then 1 else ip[i] := by
  unfold latchIp
  rw [latchLine_get _ _ 2 i (by omega) h, latchLine_get _ _ 1 i (by omega) h, latchLine_get _ _ 0 i (by omega) h]
  have : i = 0 ∨ i = 1 ∨ i = 2 := by omega
  rcases this with rfl | rfl | rfl <;> simp

theorem Sys.latch1_withIp (ipend : Vector Bool 3) (i : Nat) (r : Regs) (ip : Vector U16 3) (ipv : U16) :
    latch1 ipend i (withIp r ip ipv) = withIp r (latchLine ipend i ip) ipv := by
  unfold latch1 latchLine
  split <;> rfl

/-- **The latch phase on the register file**: only `ip` and `ipv` change. -/
theorem Sys.latchAll_spec (c : Core) :
    latchAll c = withIp c.regs (latchIp c.ipend c.regs.ip) (if c.vpend = true then 1 else c.regs.ipv) := by
  have h : latch1 c.ipend 2 (latch1 c.ipend 1 (latch1 c.ipend 0 c.regs)) =
      withIp c.regs (latchIp c.ipend c.regs.ip) c.regs.ipv := by
    show latch1 _ 2 (latch1 _ 1 (latch1 _ 0 (withIp c.regs c.regs.ip c.regs.ipv))) = _
    rw [latch1_withIp, latch1_withIp, latch1_withIp]
    rfl
  unfold latchAll
  rw [h]
  split <;> rfl

theorem Sys.fetchAddress_latchAll (c : Core) : fetchAddress (latchAll c) = fetchAddress c.regs := by
  rw [latchAll_spec]; rfl

theorem latched_of_noLatch (c : Core) (hi : c.ipend = Vector.replicate 3 false) (hv : c.vpend = false) :
    latched c = c := by
  have : latchIp (Vector.replicate 3 false) c.regs.ip = c.regs.ip := by
    apply Vector.ext; intro k hk; simp [latchIp_get]
  unfold latched
  rw [latchAll_spec, hi, hv, this]
  obtain ⟨r, b, l, e, ip, vp, vc, va, i⟩ := c
  cases hi; cases hv
  rfl

theorem Sys.latchStep_run (ip : Vector Bool 3) (i : Nat) (c : Core) :
    StateT.run (if ip.toArray.getD i false = true then do
        modifyRegs fun r => { r with ip := vset r.ip i 1 }
        pure (ForInStep.yield PUnit.unit)
      else pure (ForInStep.yield PUnit.unit) : Exec (ForInStep PUnit)) c =
    .ok (ForInStep.yield PUnit.unit, { c with regs := latch1 ip i c.regs }) := by
  unfold latch1
  split <;> rfl

theorem Sys.latch_run (ip : Vector Bool 3) (c : Core) :
    StateT.run (forIn (m := Exec) [:3] PUnit.unit fun i (_ : PUnit) =>
      if ip.toArray.getD i false = true then do
        modifyRegs fun r => { r with ip := vset r.ip i 1 }
        pure (ForInStep.yield PUnit.unit)
      else pure (ForInStep.yield PUnit.unit)) c =
    .ok (PUnit.unit, { c with regs := latch1 ip 2 (latch1 ip 1 (latch1 ip 0 c.regs)) }) := by
  rw [Std.Legacy.Range.forIn_eq_forIn_range']
  simp only [Std.Legacy.Range.size, Nat.sub_zero, Nat.add_one_sub_one, Nat.div_one, List.range', Nat.zero_add, Nat.reduceAdd]
  simp only [List.forIn_cons, List.forIn_nil, run_bind, latchStep_run, except_ok_bind, run_pure]

/-- **Latch phase, closed form.**  After the latch phase `ip[i] = 1` exactly for the lines whose
latch `interrupt_pending[i]` was set (the other `ip` bits are unchanged), `ipv = 1` if
`vinterrupt_pending` was set (else unchanged), all four latches are cleared, and nothing else in
the machine changes. -/
theorem latched_spec (c : Core) :
    latched c =
      { c with
        regs := { c.regs with ip := latchIp c.ipend c.regs.ip,
                              ipv := if c.vpend = true then 1 else c.regs.ipv }
        ipend := Vector.replicate 3 false
        vpend := false } := by
  unfold latched
  rw [latchAll_spec]
  rfl

theorem latched_ip (c : Core) (i : Nat) (h : i < 3) :
    (latched c).regs.ip[i] = if c.ipend[i] = true then 1 else c.regs.ip[i] := by
  rw [latched_spec]; exact latchIp_get _ _ i h

theorem latched_ipv (c : Core) : (latched c).regs.ipv = if c.vpend = true then 1 else c.regs.ipv := by
  rw [latched_spec]

theorem latched_clears (c : Core) :
    (latched c).ipend = Vector.replicate 3 false ∧ (latched c).vpend = false := ⟨rfl, rfl⟩

/-- **Once per latched request.**  A latch that is set yields `ip[i] = 1` (resp. `ipv = 1`) in
the latch phase and is consumed by it: the latch phase of the next loop iteration finds all
latches clear and changes nothing (`latched (latched c) = latched c`), so one `SignalInterrupt`
produces one `ip` request, however many iterations follow. -/
theorem latch_once (c : Core) :
    (∀ i (h : i < 3), c.ipend[i] = true → (latched c).regs.ip[i] = 1) ∧
    (c.vpend = true → (latched c).regs.ipv = 1) ∧
    (latched c).ipend = Vector.replicate 3 false ∧ (latched c).vpend = false ∧
    latched (latched c) = latched c := by
  refine ⟨fun i h hi => ?_, fun hv => ?_, rfl, rfl, latched_of_noLatch _ rfl rfl⟩
  · rw [latched_ip c i h, hi]; rfl
  · rw [latched_ipv, hv]; rfl

/-- The latch phase never *clears* a request and never sets one without a latch. -/
theorem latch_no_spurious (c : Core) (i : Nat) (h : i < 3) (hi : c.ipend[i] = false) :
    (latched c).regs.ip[i] = c.regs.ip[i] := by
  rw [latched_ip c i h, hi]; rfl

/-- `pc++` -/
def Sys.bumpPc (r : Regs) : Regs := { r with pc := r.pc + 1 }

theorem Sys.bumpPc_rep (r : Regs) : (bumpPc r).rep = r.rep := rfl
theorem Sys.bumpPc_lp (r : Regs) : (bumpPc r).lp = r.lp := rfl
theorem Sys.bumpPc_bcn (r : Regs) : (bumpPc r).bcn = r.bcn := rfl
theorem Sys.bumpPc_bkrep (r : Regs) : (bumpPc r).bkrep = r.bkrep := rfl
theorem bumpPc_pc (r : Regs) : (bumpPc r).pc = r.pc + 1 := rfl

theorem Sys.condVal_bumpPc (cv : CondValue) (r : Regs) : condVal cv (bumpPc r) = condVal cv r :=
  condVal_congr cv rfl

theorem Sys.fetchAddr_run (c : Core) :
    fetchAddr.run c = .ok (fetchAddress c.regs, { c with regs := bumpPc c.regs }) := rfl

theorem Sys.programRead_run (c : Core) (a : U32) (w : U16) (accs : List Access)
    (h : c.bus.programRead a = .ok (w, accs)) :
    (programRead a).run c = .ok (w, { c with log := accs.reverse ++ c.log }) := by
  unfold programRead
  simp only [run_bind, run_get, except_ok_bind, h]
  rfl

/-- Fetch one instruction: opcode, decoder entry, expansion word (0 for one-word patterns). -/
def fetch : Exec (Option InstrPat × U16 × U16) := do
  let opcode ← programRead (← fetchAddr)
  let dec := decoderArray.getD opcode.toNat none
  let expanded := match dec with | some p => p.expanded | none => false
  let expansion ← if expanded then programRead (← fetchAddr) else pure 0
  return (dec, opcode, expansion)

/-- `decoder.call(*this, opcode, expand_value)` -/
def exec1 (x : Option InstrPat × U16 × U16) : Exec Unit :=
  match x.1 with
  | none => unreachable
  | some p => dispatch p.idx (p.extract x.2.1.toNat x.2.2.toNat)

/-- The copy of `cycle`'s text after the opcode fetch (head of the file). -/
def restK (dec : Option InstrPat) (opcode : U16) (k : Exec Unit) : Exec Unit := do
  let expanded := match dec with | some p => p.expanded | none => false
  let expansion ← if expanded then programRead (← fetchAddr) else pure 0
  let r ← getRegs
  if r.rep then
    if r.repc == 0 then modifyRegs fun r => { r with rep := false }
    else modifyRegs fun r => { r with repc := r.repc - 1, pc := r.pc - 1 }
  let r ← getRegs
  if r.lp != 0 then
    let i := r.bcn.toNat - 1
    if r.bcn == 0 || i ≥ 4 then abort .oob
    let f := r.bkrep.toArray.getD i {}
    if f.end_ + 1 == r.pc then
      if f.lc == 0 then
        modifyRegs fun r => { r with bcn := r.bcn - 1, lp := Alu.b2u (r.bcn - 1 != 0) }
      else
        modifyRegs fun r =>
          { r with bkrep := (if h : i < 4 then r.bkrep.set i { f with lc := f.lc - 1 } else r.bkrep),
                   pc := f.start }
  match dec with
  | none => unreachable
  | some p => dispatch p.idx (p.extract opcode.toNat expansion.toNat)
  k

/-- The loop body between the latch phase and the interrupt block. -/
def execPhase : Exec Unit := do
  let opcode ← programRead (← fetchAddr)
  restK (decoderArray.getD opcode.toNat none) opcode (pure ())

/-- The single-instruction-repeat block of `Run`, on the register file (after the fetch). -/
def repBook (r : Regs) : Regs :=
  if r.rep then
    if r.repc == 0 then { r with rep := false } else { r with repc := r.repc - 1, pc := r.pc - 1 }
  else r

/-- The block-repeat block of `Run`, on the register file (after the fetch and `repBook`).
`oob`: the C++ indexes `bkrep_stack[bcn - 1]` outside its four entries. -/
def loopBook (r : Regs) : Except Stop Regs :=
  if r.lp != 0 then
    let i := r.bcn.toNat - 1
    if r.bcn == 0 || i ≥ 4 then .error (.abort .oob)
    else
      let f := r.bkrep.toArray.getD i {}
      if f.end_ + 1 == r.pc then
        if f.lc == 0 then .ok { r with bcn := r.bcn - 1, lp := Alu.b2u (r.bcn - 1 != 0) }
        else .ok { r with bkrep := (if h : i < 4 then r.bkrep.set i { f with lc := f.lc - 1 } else r.bkrep),
                          pc := f.start }
      else .ok r
  else .ok r

def booked (c : Core) (m : Exec Unit) : Except Stop (Unit × Core) :=
  match loopBook (repBook c.regs) with
  | .ok r' => m.run { c with regs := r' }
  | .error e => .error e

theorem repPart_run (rest : Exec Unit) (c : Core) :
    StateT.run (do
      let r ← getRegs
      if r.rep then
        if r.repc == 0 then modifyRegs fun r => { r with rep := false }
        else modifyRegs fun r => { r with repc := r.repc - 1, pc := r.pc - 1 }
      rest : Exec Unit) c = rest.run { c with regs := repBook c.regs } := by
  rw [run_getRegs_bind]
  by_cases hrep : c.regs.rep = true
  · by_cases hz : (c.regs.repc == 0) = true
    · rw [if_pos hrep, repBook, if_pos hrep, if_pos hz, run_have, if_pos hz]
      rfl
    · rw [if_pos hrep, repBook, if_pos hrep, if_neg hz, run_have, if_neg hz]
      rfl
  · rw [if_neg hrep, repBook, if_neg hrep]

theorem loopPart_run (rest : Exec Unit) (c : Core) :
    StateT.run (do
      let r ← getRegs
      if r.lp != 0 then
        let i := r.bcn.toNat - 1
        if r.bcn == 0 || i ≥ 4 then abort .oob
        let f := r.bkrep.toArray.getD i {}
        if f.end_ + 1 == r.pc then
          if f.lc == 0 then
            modifyRegs fun r => { r with bcn := r.bcn - 1, lp := Alu.b2u (r.bcn - 1 != 0) }
          else
            modifyRegs fun r =>
              { r with bkrep := (if h : i < 4 then r.bkrep.set i { f with lc := f.lc - 1 } else r.bkrep),
                       pc := f.start }
      rest : Exec Unit) c =
    match loopBook c.regs with
    | .ok r' => rest.run { c with regs := r' }
    | .error e => .error e := by
  rw [run_getRegs_bind]
  by_cases hlp : (c.regs.lp != 0) = true
  · rw [if_pos hlp, loopBook, if_pos hlp]
    dsimp only
    by_cases hg : (c.regs.bcn == 0 || decide (c.regs.bcn.toNat - 1 ≥ 4)) = true
    · rw [if_pos hg, if_pos hg]
      rfl
    · rw [if_neg hg, if_neg hg]
      by_cases he : ((c.regs.bkrep.toArray.getD (c.regs.bcn.toNat - 1) {}).end_ + 1 == c.regs.pc) = true
      · rw [if_pos he, if_pos he]
        by_cases hl : ((c.regs.bkrep.toArray.getD (c.regs.bcn.toNat - 1) {}).lc == 0) = true
        · rw [if_pos hl, if_pos hl]
          rfl
        · rw [if_neg hl, if_neg hl]
          rfl
      · rw [if_neg he, if_neg he]
  · rw [if_neg hlp, loopBook, if_neg hlp]

theorem restK_run (dec : Option InstrPat) (opcode : U16) (k : Exec Unit) (c : Core) :
    (restK dec opcode k).run c =
      StateT.run (if (match dec with | some p => p.expanded | none => false) = true
        then do programRead (← fetchAddr) else pure 0 : Exec U16) c >>= fun e =>
      booked e.2 (do exec1 (dec, opcode, e.1); k) := by
  unfold restK
  rw [run_have]
  refine (run_ite_jp _ _ _ 0 _ c).trans (congrArg (_ >>= ·) (funext fun e => ?_))
  refine (repPart_run _ _).trans ((loopPart_run _ _).trans ?_)
  unfold booked
  show (match loopBook (repBook e.2.regs) with | .ok r' => _ | .error err => _) = _
  cases loopBook (repBook e.2.regs) with
  | error err => rfl
  | ok r' => cases dec <;> rfl

theorem fetch_run (c : Core) :
    fetch.run c = (programRead (fetchAddress c.regs)).run { c with regs := bumpPc c.regs } >>= fun o =>
      StateT.run (if (match decoderArray.getD o.1.toNat none with | some p => p.expanded | none => false) = true
        then do programRead (← fetchAddr) else pure 0 : Exec U16) o.2 >>= fun e =>
      .ok ((decoderArray.getD o.1.toNat none, o.1, e.1), e.2) := by
  unfold fetch
  rw [run_bind, fetchAddr_run, except_ok_bind, fst_mk, snd_mk, run_bind]
  refine congrArg (_ >>= ·) (funext fun o => ?_)
  rw [run_have]
  exact run_ite_jp _ _ _ 0 _ o.2

/-- The loop body after the latch for any final statement `k`: `execPhase` has `pure ()`, `cycle` has `interruptCheck`. -/
theorem fetch_restK_run (k : Exec Unit) (c : Core) :
    StateT.run (do
      let opcode ← programRead (← fetchAddr)
      restK (decoderArray.getD opcode.toNat none) opcode k : Exec Unit) c =
    fetch.run c >>= fun x => booked x.2 (do exec1 x.1; k) := by
  rw [fetch_run, run_bind, fetchAddr_run, except_ok_bind, fst_mk, snd_mk, run_bind]
  cases (programRead (fetchAddress c.regs)).run { c with regs := bumpPc c.regs } with
  | error e => rfl
  | ok o =>
    rw [except_ok_bind, except_ok_bind, restK_run]
    cases StateT.run (if (match decoderArray.getD o.1.toNat none with | some p => p.expanded | none => false) = true
      then do programRead (← fetchAddr) else pure 0 : Exec U16) o.2 <;> rfl

/-- **The instruction part of the loop body**: fetch, bookkeeping, handler. -/
theorem execPhase_run (c : Core) :
    execPhase.run c = fetch.run c >>= fun x => booked x.2 (exec1 x.1) := by
  unfold execPhase
  rw [fetch_restK_run]
  simp only [bind_pure_unit]

theorem cycle_latched (c : Core) :
    cycle.run c = StateT.run (do
      let opcode ← programRead (← fetchAddr)
      restK (decoderArray.getD opcode.toNat none) opcode interruptCheck : Exec Unit) (latched c) := by
  -- keep the right-hand program out of reach of the rewriting below
  generalize hM : (do
    let opcode ← programRead (← fetchAddr)
    restK (decoderArray.getD opcode.toNat none) opcode interruptCheck : Exec Unit) = M
  unfold cycle
  simp -zeta only [run_bind, run_get, except_ok_bind, latch_run, run_modify]
  rw [run_have]
  -- the `vinterrupt_pending` block ends the latch phase; what follows it is the right-hand program
  refine (run_ite_jp _ _ _ () _ _).trans
    (Eq.trans (congrArg (· >>= _) (?_ : _ = Except.ok ((), latched c))) (hM ▸ rfl))
  unfold latched latchAll
  cases c.vpend <;> rfl

/-- **One loop body** (`cycle`): latch, fetch, the two bookkeeping functions on the register file,
`dispatch`, interrupt block. -/
theorem cycle_run (c : Core) :
    cycle.run c = fetch.run (latched c) >>= fun x => booked x.2 (do exec1 x.1; interruptCheck) := by
  rw [cycle_latched, fetch_restK_run]

/-- **The interrupt block runs after the instruction handler**: one loop iteration is the latch
phase, then the instruction part `execPhase` (which leaves `pc` at the next instruction to be
executed: the fetch increments, the `rep`/`bkrep` bookkeeping and the handler redirect), and only
then the interrupt block — so the `pc` that `entry_pushes_next_pc` shows on the stack is the
address of the next unexecuted instruction. -/
theorem cycle_entry_after_exec (c : Core) :
    cycle.run c = (execPhase.run (latched c) >>= fun r => interruptCheck.run r.2) := by
  rw [cycle_run, execPhase_run]
  cases fetch.run (latched c) with
  | error e => rfl
  | ok x =>
    rw [except_ok_bind, except_ok_bind]
    unfold booked
    cases loopBook (repBook x.2.regs) with
    | error e => rfl
    | ok r' => exact run_bind _ _ _

theorem fetch_one (c : Core) (w : U16) (accs : List Access) (p : InstrPat)
    (hread : c.bus.programRead (fetchAddress c.regs) = .ok (w, accs))
    (hdec : decoderArray.getD w.toNat none = some p) (hexp : p.expanded = false) :
    fetch.run c = .ok ((some p, w, 0), { c with regs := bumpPc c.regs, log := accs.reverse ++ c.log }) := by
  rw [fetch_run, programRead_run { c with regs := bumpPc c.regs } _ w accs hread, except_ok_bind, fst_mk, snd_mk,
    hdec]
  simp only [hexp, Bool.false_eq_true, if_false]
  rfl

theorem fetch_two (c : Core) (w w2 : U16) (accs accs2 : List Access) (p : InstrPat)
    (hread : c.bus.programRead (fetchAddress c.regs) = .ok (w, accs))
    (hdec : decoderArray.getD w.toNat none = some p) (hexp : p.expanded = true)
    (hread2 : c.bus.programRead (fetchAddress (bumpPc c.regs)) = .ok (w2, accs2)) :
    fetch.run c = .ok ((some p, w, w2),
      { c with regs := bumpPc (bumpPc c.regs), log := accs2.reverse ++ (accs.reverse ++ c.log) }) := by
  rw [fetch_run, programRead_run { c with regs := bumpPc c.regs } _ w accs hread, except_ok_bind, fst_mk, snd_mk,
    hdec]
  simp only [hexp, if_true]
  rw [run_bind, fetchAddr_run, except_ok_bind, fst_mk, snd_mk,
    programRead_run ({ c with regs := bumpPc (bumpPc c.regs), log := accs.reverse ++ c.log } : Core)
      (fetchAddress (bumpPc c.regs)) w2 accs2 hread2]
  rfl

theorem booked_off (c : Core) (m : Exec Unit) (hrep : c.regs.rep = false) (hlp : c.regs.lp = 0) :
    booked c m = m.run c := by
  unfold booked repBook
  rw [hrep, if_neg Bool.false_ne_true, loopBook, hlp]
  rfl

/-- **One loop body** on a one-word instruction. -/
theorem cycle_one (c : Core) (w : U16) (accs : List Access) (p : InstrPat)
    (hread : c.bus.programRead (fetchAddress (latchAll c)) = .ok (w, accs))
    (hdec : decoderArray.getD w.toNat none = some p) (hexp : p.expanded = false) :
    cycle.run c =
      match loopBook (repBook (bumpPc (latchAll c))) with
      | .ok r' => StateT.run (do dispatch p.idx (p.extract w.toNat 0); interruptCheck : Exec Unit)
                    { latched c with regs := r', log := accs.reverse ++ c.log }
      | .error e => .error e := by
  rw [cycle_run, fetch_one (latched c) w accs p hread hdec hexp]; rfl

/-- **One loop body** on a two-word instruction. -/
theorem cycle_two (c : Core) (w w2 : U16) (accs accs2 : List Access) (p : InstrPat)
    (hread : c.bus.programRead (fetchAddress (latchAll c)) = .ok (w, accs))
    (hdec : decoderArray.getD w.toNat none = some p) (hexp : p.expanded = true)
    (hread2 : c.bus.programRead (fetchAddress (bumpPc (latchAll c))) = .ok (w2, accs2)) :
    cycle.run c =
      match loopBook (repBook (bumpPc (bumpPc (latchAll c)))) with
      | .ok r' => StateT.run (do dispatch p.idx (p.extract w.toNat w2.toNat); interruptCheck : Exec Unit)
                    { latched c with regs := r', log := accs2.reverse ++ (accs.reverse ++ c.log) }
      | .error e => .error e := by
  rw [cycle_run, fetch_two (latched c) w w2 accs accs2 p hread hdec hexp hread2]; rfl

end Teakra
