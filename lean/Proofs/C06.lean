import TeakraModel.RunLoop
import Proofs.Lemmas.Except
/-!
# C06 — `Run(n)` is equivalent to `n` single-cycle steps, however it is sliced

The control structure.  For ANY state type and ANY body / tick / skip operations that
satisfy the obligations of `FastForwardOk` (an invariant `P` kept by a tick and by a whole cycle; `skip_eq`, `quiet`,
`idle_body`), `Run(cycles)` equals `cycles` single cycles; hence every
slicing of the budget gives the same result.  The obligations are discharged for the concrete
machine in `Proofs/C06Sys.lean` (`skip = ticks` is C15/C16 lifted to `CoreTiming`; "the body is the
identity while idling with nothing pending" is the self-branch lemma).
-/
namespace Teakra.LoopOps
variable {ε S : Type} (o : LoopOps ε S)

/-- What the fast path needs from the machine. -/
structure FastForwardOk (o : LoopOps ε S) where
  /-- an invariant of the machine: kept by a tick, and re-established by every loop body that is
  followed by a successful tick (the tick checks the peripherals' configuration) -/
  P : S → Prop
  P_tick : ∀ s s', P s → o.tick s = .ok s' → P s'
  P_cycle : ∀ s s1 s2, P s → o.body s = .ok s1 → o.tick s1 = .ok s2 → P s2
  /-- the largest cycle budget the statement covers (`Run` takes a 64-bit count; `Sys.ffOk` sets `2 ^ 63`) -/
  bound : Nat
  /-- horizon reported by the peripherals in a state -/
  horizon : S → Nat
  /-- `Skip(m)` advances by `k = min m horizon` cycles and equals `k` ticks -/
  skip_eq : ∀ s m, P s → o.skipAllowed s = true → m < bound →
    o.skip s m = (o.ticksN (min m (horizon s)) s).map fun s' => (s', min m (horizon s))
  /-- while the fast-forward condition holds and within the horizon, ticks keep it true … -/
  quiet : ∀ s, P s → o.skipAllowed s = true → ∀ j, j ≤ horizon s → ∀ s', o.ticksN j s = .ok s' → o.skipAllowed s' = true
  /-- … and the loop body is the identity on such states (the core only re-executes its self-branch) -/
  idle_body : ∀ s, P s → o.skipAllowed s = true → o.body s = .ok s

variable {o}

private theorem bind_assoc' {α β γ : Type} (x : Except ε α) (f : α → Except ε β) (g : β → Except ε γ) :
    (x >>= f) >>= g = x >>= fun a => f a >>= g := by
  cases x <;> rfl

theorem ticksN_add (a b : Nat) (s : S) :
    o.ticksN (a + b) s = (o.ticksN a s) >>= fun s' => o.ticksN b s' := by
  induction a generalizing s with
  | zero => rw [Nat.zero_add]; rfl
  | succ a ih =>
    rw [Nat.succ_add]
    simp only [ticksN, bind_assoc']
    exact Except.bind_congr_ok fun s1 _ => ih s1

private theorem cyclesN_add (a b : Nat) (s : S) :
    o.cyclesN (a + b) s = (o.cyclesN a s) >>= fun s' => o.cyclesN b s' := by
  induction a generalizing s with
  | zero => rw [Nat.zero_add]; rfl
  | succ a ih =>
    rw [Nat.succ_add]
    simp only [cyclesN, bind_assoc']
    exact Except.bind_congr_ok fun s1 _ => Except.bind_congr_ok fun s2 _ => ih s2

private theorem P_ticksN (h : FastForwardOk o) (k : Nat) : ∀ s s', h.P s → o.ticksN k s = .ok s' → h.P s' := by
  induction k with
  | zero => intro s s' hp ht; cases ht; exact hp
  | succ k ih =>
    intro s s' hp ht
    obtain ⟨s1, h1, ht⟩ := Except.bind_eq_ok.mp ht
    exact ih s1 s' (h.P_tick s s1 hp h1) ht

theorem P_cyclesN (h : FastForwardOk o) (k : Nat) : ∀ s s', h.P s → o.cyclesN k s = .ok s' → h.P s' := by
  induction k with
  | zero => intro s s' hp ht; cases ht; exact hp
  | succ k ih =>
    intro s s' hp ht
    obtain ⟨s1, h1, ht⟩ := Except.bind_eq_ok.mp ht
    obtain ⟨s2, h2, ht⟩ := Except.bind_eq_ok.mp ht
    exact ih s2 s' (h.P_cycle s s1 s2 hp h1 h2) ht

private theorem cycles_eq_ticks (h : FastForwardOk o) (k : Nat) :
    ∀ s, h.P s → o.skipAllowed s = true → k ≤ h.horizon s → o.cyclesN k s = o.ticksN k s := by
  induction k with
  | zero => intro s _ _ _; rfl
  | succ k ih =>
    intro s hp hs hk
    -- split off the LAST cycle instead of the first, so the horizon of `s` bounds everything
    rw [cyclesN_add k 1, ticksN_add k 1, ih s hp hs (Nat.le_of_succ_le hk)]
    refine Except.bind_congr_ok fun s' hk' => ?_
    rw [cyclesN, h.idle_body s' (P_ticksN h k s s' hp hk') (h.quiet s hp hs k (Nat.le_of_succ_le hk) s' hk')]
    rfl

/-- The loop with `r` cycles to go, `cycles - i` written as a sum. -/
private theorem go_add (h : FastForwardOk o) {cycles : Nat} (hc : cycles ≤ h.bound) :
    ∀ fuel r i s, h.P s → r ≤ fuel → i + r = cycles → o.go cycles fuel i s = o.cyclesN r s := by
  intro fuel
  induction fuel with
  | zero => intro r i s _ hf _; rw [Nat.le_zero.mp hf]; rfl
  | succ fuel ih =>
    intro r i s hp hf hr
    subst hr
    unfold go
    cases r with
    | zero => exact if_neg (Nat.lt_irrefl i)
    | succ n =>
      rw [if_pos (Nat.lt_add_of_pos_right (Nat.succ_pos n))]
      -- the end of the iteration that is entered `j` cycles on: the loop body, the tick, and the rest
      -- of the loop by induction
      have tail : ∀ j m s', j + m = n → h.P s' →
          (o.body s' >>= fun s1 => o.tick s1 >>= fun s2 => o.go (i + (n + 1)) fuel (i + j + 1) s2) =
            o.cyclesN (m + 1) s' := fun j m s' hn hp' =>
        Except.bind_congr_ok fun s1 hb => Except.bind_congr_ok fun s2 ht =>
          ih m (i + j + 1) s2 (h.P_cycle s' s1 s2 hp' hb ht) (by omega) (by omega)
      by_cases hs : o.skipAllowed s = true
      · rw [if_pos hs, Nat.add_sub_cancel_left, Nat.add_sub_cancel, h.skip_eq s n hp hs (by omega)]
        -- the skip is `k ≤ n` ticks inside the horizon, and so are the first `k` single cycles
        generalize hk : min n (h.horizon s) = k
        have hkh : k ≤ h.horizon s := hk ▸ Nat.min_le_right ..
        obtain ⟨m, rfl⟩ := Nat.exists_eq_add_of_le (hk ▸ Nat.min_le_left n (h.horizon s))
        refine Eq.trans ?_ (cyclesN_add k (m + 1) s).symm
        rw [cycles_eq_ticks h k s hp hs hkh]
        cases ht : o.ticksN k s with
        | error e => rfl
        | ok s1 =>
          have hp1 := P_ticksN h k s s1 hp ht
          simp only [Except.map, bind, Except.bind, pure, Except.pure]
          cases m with
          | zero =>
            -- it covers the rest of the slice: no extra tick, the body runs on the last cycle
            rw [if_neg (by omega)]
            exact tail k 0 s1 rfl hp1
          | succ m =>
            -- it stops at the peripherals' horizon: one extra tick, which is the cycle of the still
            -- idle `s1`, then the loop body
            rw [if_pos (by omega), cyclesN, h.idle_body s1 hp1 (h.quiet s hp hs k hkh s1 ht)]
            exact Except.bind_congr_ok fun s2 ht2 => tail (k + 1) m s2 (by omega) (h.P_tick s1 s2 hp1 ht2)
      · rw [if_neg hs]
        exact tail 0 n s (Nat.zero_add n) hp

theorem go_eq_cycles (h : FastForwardOk o) (cycles : Nat) (hc : cycles ≤ h.bound) :
    ∀ fuel i s, h.P s → cycles - i ≤ fuel → o.go cycles fuel i s = o.cyclesN (cycles - i) s := by
  intro fuel i s hp hf
  rcases Nat.lt_or_ge cycles i with hi | hi
  · rw [Nat.sub_eq_zero_of_le (Nat.le_of_lt hi)]
    cases fuel with
    | zero => rfl
    | succ fuel => exact if_neg (Nat.lt_asymm hi)
  · exact go_add h hc fuel (cycles - i) i s hp hf (Nat.add_sub_of_le hi)

/-- **`Run(n)` is `n` single cycles.**  The fast-forward taken while the program idles is
unobservable: with the obligations of `FastForwardOk`, executing `n` cycles in one call gives
exactly the state (and abort behaviour) of stepping every cycle individually. -/
theorem run_eq_cycles (h : FastForwardOk o) (n : Nat) (hn : n ≤ h.bound) (s : S) (hp : h.P (o.start s)) :
    o.run n s = o.cyclesN n (o.start s) := by
  unfold run
  rw [go_eq_cycles h n hn n 0 (o.start s) hp (by omega)]
  rfl

/-- An observation of the state that forgets exactly what `Run` re-initialises at its start (the
`idle` flag) and that the body and the tick respect. -/
structure ObsOk (o : LoopOps ε S) (h : FastForwardOk o) {O : Type} (obs : S → O) where
  start_obs : ∀ s, obs (o.start s) = obs s
  P_start : ∀ s, h.P s → h.P (o.start s)
  body_congr : ∀ s t, h.P s → h.P t → obs s = obs t → (o.body s).map obs = (o.body t).map obs
  tick_congr : ∀ s t, obs s = obs t → (o.tick s).map obs = (o.tick t).map obs

theorem cyclesN_congr {O : Type} {obs : S → O} {h : FastForwardOk o} (hob : ObsOk o h obs) (n : Nat) :
    ∀ s t, h.P s → h.P t → obs s = obs t → (o.cyclesN n s).map obs = (o.cyclesN n t).map obs := by
  induction n with
  | zero => intro s t _ _ hst; simp [cyclesN, Except.map, hst]
  | succ n ih =>
    intro s t hps hpt hst
    exact Except.map_bind_congr (hob.body_congr s t hps hpt hst) fun a b h1 h2 hab =>
      Except.map_bind_congr (hob.tick_congr a b hab) fun a' b' h3 h4 hab' =>
        ih a' b' (h.P_cycle s a a' hps h1 h3) (h.P_cycle t b b' hpt h2 h4) hab'

/-- **Any two-way slicing.**  `Run(m + n)` and `Run(m)` followed by `Run(n)` are observationally
equal (same registers, memory, peripheral state and events — everything `obs` keeps), including
when either call aborts. -/
theorem run_slice {O : Type} {obs : S → O} (h : FastForwardOk o) (hob : ObsOk o h obs) (m n : Nat)
    (hb : m + n ≤ h.bound) (s : S) (hp : h.P s) :
    (o.run (m + n) s).map obs = ((o.run m s) >>= fun s' => o.run n s').map obs := by
  have hp0 := hob.P_start s hp
  rw [run_eq_cycles h _ hb s hp0, run_eq_cycles h m (by omega) s hp0, cyclesN_add]
  cases hm : o.cyclesN m (o.start s) with
  | error e => rfl
  | ok s1 =>
    have hp1 := P_cyclesN h m _ s1 hp0 hm
    simp only [bind, Except.bind]
    rw [run_eq_cycles h n (by omega) s1 (hob.P_start s1 hp1)]
    exact cyclesN_congr hob n s1 (o.start s1) hp1 (hob.P_start s1 hp1) (hob.start_obs s1).symm

def runSlices (o : LoopOps ε S) : List Nat → S → Except ε S
  | [], s => .ok s
  | n :: ns, s => (o.run n s) >>= fun s' => runSlices o ns s'

theorem P_run {O : Type} {obs : S → O} (h : FastForwardOk o) (hob : ObsOk o h obs) (n : Nat) (hn : n ≤ h.bound)
    (s s' : S) (hp : h.P s) (hr : o.run n s = .ok s') : h.P s' := by
  rw [run_eq_cycles h n hn s (hob.P_start s hp)] at hr
  exact P_cyclesN h n _ s' (hob.P_start s hp) hr

/-- **Every partition of the cycle budget.**  Executing the slices `n₁, n₂, …` in sequence is
observationally equal to one call with their sum. -/
theorem run_partition {O : Type} {obs : S → O} (h : FastForwardOk o) (hob : ObsOk o h obs) (ns : List Nat)
    (hb : ns.sum ≤ h.bound) :
    ∀ s, h.P s → (runSlices o ns s).map obs = (o.run ns.sum s).map obs := by
  induction ns with
  | nil =>
    intro s hp
    simp only [runSlices, List.sum_nil, run_eq_cycles h 0 (by omega) s (hob.P_start s hp), cyclesN, Except.map,
      hob.start_obs]
  | cons n ns ih =>
    intro s hp
    rw [List.sum_cons] at hb
    rw [List.sum_cons, run_slice h hob n ns.sum hb s hp]
    simp only [runSlices]
    cases hn : o.run n s with
    | error e => rfl
    | ok s1 => exact ih (by omega) s1 (P_run h hob n (by omega) s s1 hp hn)

end Teakra.LoopOps
