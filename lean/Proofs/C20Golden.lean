import Proofs.C20
import TeakraModel.Golden.RegLayout
/-!
# C20 — the generated layout table equals the committed snapshot

Separate module so that a changed `register.h` breaks *this* file (telling the reader which table
entry moved) while `Proofs/C20.lean` is re-proved over the new table.
-/
namespace Teakra.Regs

/-- The table translated from the tree under test is the committed snapshot of the pinned tree. -/
theorem layouts_eq_golden : layouts = Golden.layouts := rfl

/-- So are the shadow lists and the `RegisterState` member list (used by C08 / C17). -/
theorem shadow_lists_eq_golden :
    shadowRegisters = Golden.shadowRegisters ∧ shadowSwapRegisters = Golden.shadowSwapRegisters ∧
    shadowSwapArArp = Golden.shadowSwapArArp ∧ stateFields = Golden.stateFields := ⟨rfl, rfl, rfl, rfl⟩

/-- Writable masks of the 19 words of the pinned tree (for the record; `get_set` is about these). -/
theorem writable_golden : Golden.layouts.map (fun w => (w.1, writable w.2)) =
    [("cfgi", 0xFFFF#16), ("cfgj", 0xFFFF#16), ("stt0", 0x08FF#16), ("stt1", 0xC010#16), ("stt2", 0x00C0#16),
     ("mod0", 0x6FE3#16), ("mod1", 0xF0FF#16), ("mod2", 0xFFFF#16), ("mod3", 0xEFFF#16),
     ("st0", 0xFFFF#16), ("st1", 0xFCFF#16), ("st2", 0x03FF#16), ("icr", 0x000F#16),
     ("ar0", 0xFFFF#16), ("ar1", 0xFFFF#16), ("arp0", 0x6FFF#16), ("arp1", 0x6FFF#16),
     ("arp2", 0x6FFF#16), ("arp3", 0x6FFF#16)] := by decide +kernel

end Teakra.Regs
