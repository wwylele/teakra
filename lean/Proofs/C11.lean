import Proofs.Mmio.Write
/-!
# C11 — DSP-side and host-side views of program and data memory are the same bytes

Theorems about `Teakra.Bus.programRead/Write`, `dataRead/Write`, `dataReadA32/WriteA32` (model of
`MemoryInterface`, src/memory_interface.cpp), `Mem.byte` / `Mem.setByte` (the raw pointer
`GetDspMemory()`) and the MMIO window.

A *port* is one way of addressing memory: the program accessor with its 32-bit word address
(instruction fetches use it too), the data accessor with a 16-bit address and the bypass flag
(loads and stores of the core, `Teakra::DataRead/DataWrite` of the host), and the
32-bit-address data accessor.  `Port.cell` is the index of the 16-bit word (bytes `2w`, `2w+1`
of the 0x80000-byte array) that a port addresses in the current MIU configuration, or `none`
when the access goes to an MMIO register, fails an `ASSERT`, or falls outside the array.
-/
namespace Teakra

inductive Port where
  /-- `ProgramRead/ProgramWrite(address)` -/
  | prog (p : U32)
  /-- `DataRead/DataWrite(address, bypass_mmio)` -/
  | data (a : U16) (bypass : Bool)
  /-- `DataReadA32/DataWriteA32(address)` -/
  | a32 (a : U32)
  deriving DecidableEq, Repr

namespace Bus

def wordCell (wa : U32) : Option Nat := if Mem.inRange wa then some (Mem.byteAddr wa / 2) else none

def Port.cell (b : Bus) : Port → Option Nat
  | .prog p => wordCell p
  | .data a bypass =>
    if b.miu.inMmioWindow a && !bypass then none
    else match b.miu.convert a with
      | .ok c => wordCell c
      | .error _ => none
  | .a32 a => wordCell (a32Address a)

def Port.read (b : Bus) : Port → R U16
  | .prog p => (b.programRead p).map (·.1)
  | .data a bypass => (b.dataRead a bypass).map (·.1)
  | .a32 a => (b.dataReadA32 a).map (·.1)

def Port.write (b : Bus) (v : U16) : Port → R Bus
  | .prog p => (b.programWrite p v).map (·.1)
  | .data a bypass => (b.dataWrite a v bypass).map (·.1)
  | .a32 a => (b.dataWriteA32 a v).map (·.1)

/-! ## the memory itself -/

theorem Mem.read_write (m : Mem) (w w' : Nat) (v : U16) :
    (m.write w v).read w' = if w' = w then v else m.read w' := by
  by_cases h : w' = w
  · subst h; simp [Mem.read, Mem.write]
  · have : ¬ (w = w') := fun e => h e.symm
    simp [Mem.read, Mem.write, Std.HashMap.getElem?_insert, h, this]

/-- **Byte view.**  Word `w` is bytes `2w` (low) and `2w+1` (high) of the array. -/
theorem byte_view (m : Mem) (w : Nat) : m.byte (2 * w + 1) ++ m.byte (2 * w) = m.read w := by
  simp only [Mem.byte, Nat.mul_mod_right, Nat.mul_add_mod, Nat.mul_div_cancel_left w Nat.two_pos,
    Nat.mul_add_div Nat.two_pos, Nat.reduceMod, Nat.reduceDiv, Nat.add_zero, Nat.one_ne_zero, if_true, if_false]
  exact BitVec.extractLsb'_append_extractLsb' (w := 8) (len := 8)

/-- `GetDspMemory()[ba] = v` changes byte `ba` … -/
theorem byte_setByte_same (m : Mem) (ba : Nat) (v : BitVec 8) : (m.setByte ba v).byte ba = v := by
  unfold Mem.setByte Mem.byte
  simp only [Mem.read_write, if_true]
  by_cases h : ba % 2 = 0
  · simp only [h, if_true]; exact BitVec.extractLsb'_append_eq_right
  · simp only [h, if_false]; exact BitVec.extractLsb'_append_eq_left

/-- … and no other byte. -/
theorem byte_write_other (m : Mem) (ba ba' : Nat) (v : BitVec 8) (h : ba' ≠ ba) :
    (m.setByte ba v).byte ba' = m.byte ba' := by
  unfold Mem.setByte Mem.byte
  simp only [Mem.read_write]
  by_cases hw : ba' / 2 = ba / 2
  · simp only [hw, if_true]
    by_cases h0 : ba % 2 = 0
    · have h1 : ¬ ba' % 2 = 0 := by omega
      simp only [h0, h1, if_true, if_false]; exact BitVec.extractLsb'_append_eq_left
    · have h1 : ba' % 2 = 0 := by omega
      simp only [h0, h1, if_true, if_false]; exact BitVec.extractLsb'_append_eq_right
  · simp only [hw, if_false]

/-- **Bounds.**  `SharedMemory` asserts `word_address < 0x40000`: a word access is performed exactly for the
0x40000 words of the array (the second conjunct says the same below the top bit, where the upstream code aliased). -/
theorem mem_bounds (wa : U32) :
    (Mem.inRange wa = true ↔ wa.toNat < 0x40000) ∧
    (wa.toNat < 0x80000000 → (Mem.inRange wa = true ↔ wa.toNat < 0x40000)) := by
  unfold Mem.inRange
  constructor
  · simp
  · intro _; simp

/-- The pinned upstream code had no bound: what was inside the array was decided by the `u32` byte address,
which drops the top bit of the word address. -/
theorem mem_bounds_upstream (wa : U32) :
    (Mem.inRangeUpstream wa = true ↔ (wa * 2).toNat ≤ 0x7FFFE) := by
  unfold Mem.inRangeUpstream Mem.byteAddr
  simp; omega

theorem toNat_mul2 (wa : U32) (h : wa.toNat < 0x40000) : (wa * 2).toNat = wa.toNat * 2 := by
  rw [BitVec.toNat_mul]; simp; omega

private theorem cell_lt (wa : U32) (h : wa.toNat < 0x40000) : wordCell wa = some wa.toNat := by
  unfold wordCell Mem.inRange Mem.byteAddr
  rw [toNat_mul2 wa h, if_pos (decide_eq_true h)]
  congr 1; omega

private theorem cell_ofNat (n : Nat) (h : n < 0x40000) : wordCell (BitVec.ofNat 32 n) = some n := by
  have e : (BitVec.ofNat 32 n).toNat = n := by simp; omega
  rw [cell_lt _ (e.symm ▸ h), e]

/-! ## what each accessor does, in terms of the word it addresses -/

theorem wordCell_eq_some {wa : U32} {w : Nat} (h : wordCell wa = some w) :
    Mem.inRange wa = true ∧ Mem.byteAddr wa / 2 = w := by
  unfold wordCell at h
  split at h
  · exact ⟨‹_›, Option.some.inj h⟩
  · cases h

theorem programRead_cell (b : Bus) (p : U32) (w : Nat) (h : wordCell p = some w) :
    b.programRead p = .ok (b.mem.read w, [⟨Mem.byteAddr p, false, 0⟩]) := by
  obtain ⟨hr, rfl⟩ := wordCell_eq_some h
  simp [programRead, Mem.readWord, hr]

theorem programWrite_cell (b : Bus) (p : U32) (v : U16) (w : Nat) (h : wordCell p = some w) :
    b.programWrite p v = .ok ({ b with mem := b.mem.write w v }, [⟨Mem.byteAddr p, true, v⟩]) := by
  obtain ⟨hr, rfl⟩ := wordCell_eq_some h
  simp [programWrite, Mem.writeWord, hr]

theorem program_oob (b : Bus) (p : U32) (v : U16) (h : wordCell p = none) :
    b.programRead p = .error .assert ∧ b.programWrite p v = .error .assert := by
  unfold wordCell at h
  split at h
  · cases h
  · rename_i hr
    simp [programRead, programWrite, Mem.readWord, Mem.writeWord, hr]

/-- **Program memory.**  Program word `p` (`p < 0x40000`) is the 16-bit word at index `p`, i.e.
bytes `2p` (low) and `2p+1` (high) of the shared array; the hook sees one read at byte `2p`. -/
theorem program_bytes (b : Bus) (p : U32) (h : p.toNat < 0x40000) :
    b.programRead p =
      .ok (b.mem.byte (2 * p.toNat + 1) ++ b.mem.byte (2 * p.toNat), [⟨2 * p.toNat, false, 0⟩]) := by
  rw [programRead_cell b p p.toNat (cell_lt p h), byte_view,
    show Mem.byteAddr p = 2 * p.toNat from (toNat_mul2 p h).trans (Nat.mul_comm _ _)]

/-- The same statement by word index. -/
theorem program_word_index (b : Bus) (p : U32) (h : p.toNat < 0x40000) :
    (b.programRead p).map (·.1) = .ok (b.mem.read p.toNat) := by
  rw [programRead_cell b p p.toNat (cell_lt p h)]; rfl

/-- **No aliasing.**  A 32-bit program address with any bit above the 18-bit program space is rejected by the
assertion (the pinned upstream code dropped the top bit in `word_address * 2`, so that `p + 0x80000000`
silently addressed word `p`: `Mem.inRangeUpstream`). -/
theorem program_alias_top_bit (b : Bus) (p : U32) (h : p.toNat < 0x40000) :
    b.programRead (p + 0x80000000) = .error .assert ∧ Mem.inRangeUpstream (p + 0x80000000) = true := by
  have hn : (p + 0x80000000 : U32).toNat = p.toNat + 0x80000000 := by
    rw [BitVec.toNat_add]; simp; omega
  constructor
  · have hr : ¬ Mem.inRange (p + 0x80000000) = true := fun h' => by
      have := (mem_bounds _).1.mp h'
      omega
    exact (program_oob b _ 0 (if_neg hr)).1
  · unfold Mem.inRangeUpstream Mem.byteAddr
    have e : (p + 0x80000000) * 2 = p * 2 := by
      rw [BitVec.add_mul]
      have : (0x80000000 : U32) * 2 = 0 := by decide
      rw [this]; simp
    rw [e, toNat_mul2 p h]; simp; omega

/-- **`ConvertDataAddress` and its `ASSERT`s.**  In page mode 0 the bank is `z_page`; otherwise
`x_page` for `addr <= x_size[0] * 0x400` and `y_page` above; the call asserts exactly when the
selected page is `≥ 2`, and otherwise yields `0x20000 + 0x10000 * page + addr`. -/
theorem convert_asserts (u : Miu) (a : U16) :
    let page := if u.pageMode = 0 then u.zPage else if a.toNat ≤ u.xSize[0].toNat * 0x400 then u.xPage else u.yPage
    u.convert a = if page < 2 then .ok (BitVec.ofNat 32 (0x20000 + 0x10000 * page.toNat + a.toNat)) else .error .assert := by
  intro page
  -- the three branches of the code are one function of the selected page
  have one : ∀ pg : U16, (if pg < 2 then .ok (0x20000 + a.setWidth 32 + pg.setWidth 32 * 0x10000) else .error .assert : R U32) =
      if pg < 2 then .ok (BitVec.ofNat 32 (0x20000 + 0x10000 * pg.toNat + a.toNat)) else .error .assert := by
    intro pg
    split
    · rename_i hpg
      have : pg.toNat < 2 := hpg
      congr 1
      bv_omega
    · rfl
  unfold Miu.convert
  rw [one, one, one]
  by_cases hp : u.pageMode = 0
  · simp only [page, if_pos hp]
  · simp only [page, if_neg hp]
    split <;> rfl

private theorem cell_data {b : Bus} {a : U16} {bypass : Bool} {w : Nat} (h : Port.cell b (.data a bypass) = some w) :
    ∃ conv, ¬ (b.miu.inMmioWindow a && !bypass) = true ∧ b.miu.convert a = .ok conv ∧
      Mem.inRange conv = true ∧ Mem.byteAddr conv / 2 = w := by
  simp only [Port.cell] at h
  split at h
  · cases h
  · split at h
    · exact ⟨_, ‹_›, ‹_›, wordCell_eq_some h⟩
    · cases h

theorem dataRead_cell (b : Bus) (a : U16) (bypass : Bool) (w : Nat) (h : Port.cell b (.data a bypass) = some w) :
    ∃ conv, b.miu.convert a = .ok conv ∧
      b.dataRead a bypass = .ok (b.mem.read w, b, [], [⟨Mem.byteAddr conv, false, 0⟩]) := by
  obtain ⟨conv, hwin, hc, hr, rfl⟩ := cell_data h
  exact ⟨conv, hc, by simp [dataRead, hwin, hc, Mem.readWord, hr]⟩

theorem dataWrite_cell (b : Bus) (a v : U16) (bypass : Bool) (w : Nat) (h : Port.cell b (.data a bypass) = some w) :
    ∃ conv, b.miu.convert a = .ok conv ∧
      b.dataWrite a v bypass = .ok ({ b with mem := b.mem.write w v }, [], [⟨Mem.byteAddr conv, true, v⟩]) := by
  obtain ⟨conv, hwin, hc, hr, rfl⟩ := cell_data h
  exact ⟨conv, hc, by simp [dataWrite, hwin, hc, Mem.writeWord, hr]⟩

private theorem port_read (b : Bus) (pr : Port) (w : Nat) (h : Port.cell b pr = some w) :
    Port.read b pr = .ok (b.mem.read w) := by
  cases pr with
  | prog p => simp only [Port.read, programRead_cell b p w h]; rfl
  | data a byp =>
    obtain ⟨conv, -, hr⟩ := dataRead_cell b a byp w h
    simp only [Port.read, hr]; rfl
  | a32 a => simp only [Port.read, dataReadA32, programRead_cell b _ w h]; rfl

private theorem port_write (b : Bus) (pw : Port) (v : U16) (w : Nat) (h : Port.cell b pw = some w) :
    Port.write b v pw = .ok { b with mem := b.mem.write w v } := by
  cases pw with
  | prog p => simp only [Port.write, programWrite_cell b p v w h]; rfl
  | data a byp =>
    obtain ⟨conv, -, hr⟩ := dataWrite_cell b a v byp w h
    simp only [Port.write, hr]; rfl
  | a32 a => simp only [Port.write, dataWriteA32, programWrite_cell b _ v w h]; rfl

/-- **Data memory.**  Outside the MMIO window (or with bypass), data word `a` is the word at index
`0x20000 + 0x10000 * page + a` of the page `ConvertDataAddress` selects (`convert_asserts`), provided `page < 2`. -/
theorem data_cell_page (b : Bus) (a : U16) (bypass : Bool) (hw : (b.miu.inMmioWindow a && !bypass) = false) :
    let page := if b.miu.pageMode = 0 then b.miu.zPage
      else if a.toNat ≤ b.miu.xSize[0].toNat * 0x400 then b.miu.xPage else b.miu.yPage
    page < 2 → Port.cell b (.data a bypass) = some (0x20000 + 0x10000 * page.toNat + a.toNat) := by
  intro page hz
  have hzn : page.toNat < 2 := hz
  simp only [Port.cell, hw, (convert_asserts b.miu a).trans (if_pos hz)]
  exact cell_ofNat (0x20000 + 0x10000 * page.toNat + a.toNat) (by omega)

/-- **Data memory, default paging.**  With `page_mode = 0`, `z_page = z < 2`, outside the MMIO
window (or with bypass), data word `a` is the word at index `0x20000 + 0x10000 * z + a`. -/
theorem data_cell (b : Bus) (a : U16) (bypass : Bool) (hp : b.miu.pageMode = 0) (hz : b.miu.zPage < 2)
    (hw : (b.miu.inMmioWindow a && !bypass) = false) :
    Port.cell b (.data a bypass) = some (0x20000 + 0x10000 * b.miu.zPage.toNat + a.toNat) ∧
    (b.dataRead a bypass).map (·.1) = .ok (b.mem.read (0x20000 + 0x10000 * b.miu.zPage.toNat + a.toNat)) := by
  have hcell := data_cell_page b a bypass hw
  simp only [hp, if_true] at hcell
  exact ⟨hcell hz, port_read b _ _ (hcell hz)⟩

/-- **Data memory, page mode ≠ 0.**  The bank is `x_page` for `a <= x_size[0] * 0x400` (note the
`<=` of the code) and `y_page` above. -/
theorem data_cell_paged (b : Bus) (a : U16) (bypass : Bool) (hp : b.miu.pageMode ≠ 0)
    (hw : (b.miu.inMmioWindow a && !bypass) = false) :
    let page := if a.toNat ≤ b.miu.xSize[0].toNat * 0x400 then b.miu.xPage else b.miu.yPage
    page < 2 → Port.cell b (.data a bypass) = some (0x20000 + 0x10000 * page.toNat + a.toNat) := by
  simpa only [hp, if_false] using data_cell_page b a bypass hw

/-- **`DataReadA32` masks the address with `0x1FFFF`** (both banks, nothing else). -/
theorem a32_mask (b : Bus) (a : U32) (v : U16) :
    b.dataReadA32 a = b.dataReadA32 (a &&& 0x1FFFF) ∧ b.dataWriteA32 a v = b.dataWriteA32 (a &&& 0x1FFFF) v := by
  have : a32Address (a &&& 0x1FFFF) = a32Address a := by
    unfold a32Address
    congr 1
    ext i hi
    simp
  unfold dataReadA32 dataWriteA32
  rw [this]
  exact ⟨rfl, rfl⟩

/-- The A32 accessors address word `0x20000 + (a & 0x1FFFF)`. -/
theorem a32_cell (b : Bus) (a : U32) : Port.cell b (.a32 a) = some (0x20000 + (a &&& 0x1FFFF).toNat) := by
  have hm : (a &&& 0x1FFFF).toNat < 0x20000 := by
    rw [BitVec.toNat_and]
    exact Nat.lt_succ_of_le Nat.and_le_right
  have hadd : (a32Address a).toNat = 0x20000 + (a &&& 0x1FFFF).toNat := by
    unfold a32Address
    bv_omega
  exact hadd ▸ cell_lt _ (by omega)

/-! ## all views agree -/

private theorem cell_mem (b : Bus) (m : Mem) (p : Port) : Port.cell { b with mem := m } p = Port.cell b p := by
  cases p <;> rfl

/-- **All views agree.**  A write of `v` through any port is observed by a read through every
port that addresses the same word (program accessor, data accessor with or without bypass, A32
accessor — in any combination) … -/
theorem views_agree (b b' : Bus) (pw pr : Port) (v : U16) (w : Nat)
    (hw : Port.cell b pw = some w) (hwr : Port.write b v pw = .ok b') (hr : Port.cell b pr = some w) :
    Port.read b' pr = .ok v := by
  rw [port_write b pw v w hw] at hwr
  simp at hwr; subst hwr
  rw [port_read _ pr w (by rw [cell_mem]; exact hr)]
  simp [Mem.read_write]

/-- … and by the raw pointer: bytes `2w` and `2w+1` are the low and high byte of `v` … -/
theorem views_agree_bytes (b b' : Bus) (pw : Port) (v : U16) (w : Nat)
    (hw : Port.cell b pw = some w) (hwr : Port.write b v pw = .ok b') :
    b'.mem.byte (2 * w + 1) ++ b'.mem.byte (2 * w) = v := by
  rw [port_write b pw v w hw] at hwr
  simp at hwr; subst hwr
  rw [byte_view]
  simp [Mem.read_write]

/-- … and a byte stored through the raw pointer is observed by every port addressing its word. -/
theorem views_agree_setByte (b : Bus) (pr : Port) (ba : Nat) (x : BitVec 8) (hr : Port.cell b pr = some (ba / 2)) :
    ∃ r, Port.read { b with mem := b.mem.setByte ba x } pr = .ok r ∧
      (if ba % 2 = 0 then r.extractLsb' 0 8 else r.extractLsb' 8 8) = x := by
  refine ⟨_, port_read _ pr (ba / 2) (by rw [cell_mem]; exact hr), ?_⟩
  have := byte_setByte_same b.mem ba x
  unfold Mem.byte at this
  exact this

/-- **No other cell.**  A write through any port changes no other word: every port addressing a
different word reads what it read before, and every byte outside `2w`, `2w+1` is unchanged.
Nothing but `mem` changes (MIU, peripherals and external memory are untouched). -/
theorem read_write_other (b b' : Bus) (pw pr : Port) (v : U16) (w w' : Nat)
    (hw : Port.cell b pw = some w) (hwr : Port.write b v pw = .ok b') (hr : Port.cell b pr = some w')
    (hne : w' ≠ w) :
    Port.read b' pr = Port.read b pr ∧
    (∀ ba, ba / 2 ≠ w → b'.mem.byte ba = b.mem.byte ba) ∧
    b'.miu = b.miu ∧ b'.per = b.per ∧ b'.ext = b.ext := by
  rw [port_write b pw v w hw] at hwr
  simp at hwr; subst hwr
  refine ⟨?_, ?_, rfl, rfl, rfl⟩
  · rw [port_read _ pr w' (by rw [cell_mem]; exact hr), port_read _ pr w' hr]
    simp [Mem.read_write, hne]
  · intro ba hba
    simp [Mem.byte, Mem.read_write, hba]

/-- Reads through any port leave the memory alone. -/
theorem reads_do_not_write (b b' : Bus) (a r : U16) (bypass : Bool) (ev : List PEvent) (acc : List Access)
    (h : b.dataRead a bypass = .ok (r, b', ev, acc)) : b'.mem = b.mem ∧ b'.miu = b.miu ∧ b'.ext = b.ext := by
  unfold dataRead at h
  split at h
  · split at h
    · cases h
    · split at h <;> cases h
      -- a register read changes at most `apbp_from_cpu` (`RecvData`)
      obtain ⟨-, -, rfl, -⟩ := mmioRead_ok ‹_›
      unfold cellReadState
      split <;> exact ⟨rfl, rfl, rfl⟩
  · split at h
    · cases h
    · split at h <;> cases h
      exact ⟨rfl, rfl, rfl⟩

/-! ## the MMIO window -/

/-- **Stores into the window are register writes.**  With `z_page = 0` and no bypass, a data
write to an address inside `[mmio_base, mmio_base + 0x800)` (compared without wrap-around) is
exactly `MMIORegion::Write((addr - mmio_base) & 0x7FF, v)`: no memory access is made by the
memory interface. -/
theorem mmio_window_write (b : Bus) (a v : U16) (hw : b.miu.inMmioWindow a = true) (hz : b.miu.zPage = 0) :
    b.dataWrite a v false =
      match b.mmioWrite ((a - b.miu.mmioBase) &&& 0x7FF) v with
      | .ok (b', ev) => .ok (b', ev, [])
      | .error e => .error e := by
  unfold dataWrite
  simp only [hw, Bool.not_false, Bool.and_true, if_true, Miu.toMmio, hz]
  cases b.mmioWrite ((a - b.miu.mmioBase) &&& 0x7FF) v <;> rfl

/-- **Loads from the window are register reads.** -/
theorem mmio_window_read (b : Bus) (a : U16) (hw : b.miu.inMmioWindow a = true) (hz : b.miu.zPage = 0) :
    b.dataRead a false =
      match b.mmioRead ((a - b.miu.mmioBase) &&& 0x7FF) with
      | .ok (v, b', ev) => .ok (v, b', ev, [])
      | .error e => .error e := by
  unfold dataRead
  simp only [hw, Bool.not_false, Bool.and_true, if_true, Miu.toMmio, hz]
  cases b.mmioRead ((a - b.miu.mmioBase) &&& 0x7FF) <;> rfl

/-- **A register write never modifies the memory underneath** (nor any other memory word): the
only MMIO cell whose write reaches the shared memory is the DMA control word `0x1DE` with the
start value `0x40C0`, which runs a DMA transfer. -/
theorem mmio_write_keeps_memory (b b' : Bus) (o v : U16) (ev : List PEvent)
    (h : b.mmioWrite o v = .ok (b', ev)) (hd : ¬ (cellAt o.toNat = .dma .z ∧ v = 0x40C0)) : b'.mem = b.mem := by
  obtain ⟨ho, h⟩ := mmioWrite_ok h
  by_cases hz : cellAt o.toNat = .dma .z
  · rw [hz] at h
    obtain ⟨d, w', n, hs, rfl⟩ := cellWrite_dmaZ h
    -- without the start value `SetZ` only stores `z`
    unfold Dma.setZ at hs
    split at hs
    · rw [if_neg (fun e => hd ⟨hz, e⟩)] at hs
      cases hs; rfl
    · cases hs
  · exact (cellWrite_mem h hz).1

/-- **Bypass.**  With `bypass_mmio` the window is ignored: the access goes to the memory word
underneath (`ConvertDataAddress`), and no peripheral is touched. -/
theorem mmio_window_bypass (b : Bus) (a v : U16) (w : Nat) (hc : Port.cell b (.data a true) = some w) :
    (b.dataRead a true).map (·.1) = .ok (b.mem.read w) ∧
    (b.dataWrite a v true).map (·.1) = .ok { b with mem := b.mem.write w v } :=
  ⟨port_read b _ w hc, port_write b _ v w hc⟩

/-- **`ToMMIO`'s `ASSERT(z_page == 0)`.** -/
theorem mmio_window_assert (b : Bus) (a v : U16) (hw : b.miu.inMmioWindow a = true) (hz : b.miu.zPage ≠ 0) :
    b.dataRead a false = .error .assert ∧ b.dataWrite a v false = .error .assert := by
  unfold dataRead dataWrite Miu.toMmio
  simp only [hw, Bool.not_false, Bool.and_true, if_true, if_neg hz]
  exact ⟨trivial, trivial⟩

theorem and_7ff_toNat (x : U16) : (x &&& 0x7FF).toNat = x.toNat % 0x800 := by
  rw [BitVec.toNat_and]
  exact Nat.and_two_pow_sub_one_eq_mod x.toNat 11

/-- **The window does not wrap.**  `InMMIO` compares in `int`: a window based above `0xF800` ends
at `0xFFFF`, and the offset of an address inside the window is the plain difference. -/
theorem window_no_wrap (u : Miu) (a : U16) (hw : u.inMmioWindow a = true) (hz : u.zPage = 0) :
    u.mmioBase.toNat ≤ a.toNat ∧ a.toNat - u.mmioBase.toNat < mmioSize ∧
    u.toMmio a = .ok (BitVec.ofNat 16 (a.toNat - u.mmioBase.toNat)) := by
  unfold Miu.inMmioWindow at hw
  simp at hw
  have hlt : a.toNat - u.mmioBase.toNat < mmioSize := by omega
  refine ⟨hw.1, hlt, ?_⟩
  unfold Miu.toMmio
  rw [if_pos hz]
  congr 1
  apply BitVec.eq_of_toNat_eq
  -- inside the window the subtraction does not borrow, and the difference is below 0x800
  rw [and_7ff_toNat, BitVec.toNat_sub_of_le hw.1, BitVec.toNat_ofNat, Nat.mod_eq_of_lt hlt,
    Nat.mod_eq_of_lt (by omega)]

/-- `Teakra::Reset` zeroes the whole array. -/
theorem reset_clears_memory (b : Bus) (w ba : Nat) : b.reset.mem.read w = 0 ∧ b.reset.mem.byte ba = 0 := by
  have : b.reset.mem.read (ba / 2) = 0 := by simp [reset, Mem.read, Mem.bgWord]
  refine ⟨by simp [reset, Mem.read, Mem.bgWord], ?_⟩
  unfold Mem.byte
  rw [this]
  split <;> rfl

/-! ## non-vacuity -/

/-- On the reset configuration, data address 0x1234, program address 0x21234 and A32 address
0x1234 address the same word, so `views_agree` applies to every pair of them. -/
example : Port.cell ({} : Bus) (.data 0x1234 false) = some 0x21234 ∧
    Port.cell ({} : Bus) (.prog 0x21234) = some 0x21234 ∧ Port.cell ({} : Bus) (.a32 0x1234) = some 0x21234 := by
  refine ⟨by decide, by decide, by decide⟩

/-- … while 0x8024 (inside the default window) addresses no memory word unless bypassed. -/
example : Port.cell ({} : Bus) (.data 0x8024 false) = none ∧ Port.cell ({} : Bus) (.data 0x8024 true) = some 0x28024 := by
  refine ⟨by decide, by decide⟩

/-- The first word outside the array, and a top-bit alias: both rejected. -/
example : Port.cell ({} : Bus) (.prog 0x40000) = none ∧ Port.cell ({} : Bus) (.prog 0x80000005) = none := by
  refine ⟨by decide, by decide⟩

end Bus
end Teakra
