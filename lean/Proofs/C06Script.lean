import Proofs.C06
/-!
# C06 — slicing with host events at the slice boundaries, for any `LoopOps`

`Proofs/C06.lean` (`run_partition`) covers back-to-back calls of `Run`.  Here the host may act
between two calls.  A *script* is a list of `run n` and `host f` items; `merge` joins adjacent `run`
items.  Two scripts with the same `merge` have the same host events, in the same order, at the same
cumulative cycle positions, and differ only in how the cycles in between are sliced.
`exec_same_merge`: they are observationally equal, for any `LoopOps` with `FastForwardOk` / `ObsOk`
and any host actions that keep the invariant and respect the observation (`HostOk`).
`Proofs/C06Host.lean` instantiates this for the concrete machine and the host API.
-/
namespace Teakra.LoopOps
variable {ε S O : Type} {o : LoopOps ε S}

/-- A host action between two calls of `Run`: it keeps the invariant, and it respects the
observation on states that satisfy the invariant. -/
structure HostOk (o : LoopOps ε S) (h : FastForwardOk o) (obs : S → O) (f : S → Except ε S) : Prop where
  keepsP : ∀ s s', h.P s → f s = .ok s' → h.P s'
  congr : ∀ s t, h.P s → h.P t → obs s = obs t → (f s).map obs = (f t).map obs

inductive Item (ε S : Type) where
  | run (n : Nat)
  | host (f : S → Except ε S)

def exec (o : LoopOps ε S) : List (Item ε S) → S → Except ε S
  | [], s => .ok s
  | .run n :: l, s => o.run n s >>= fun s' => exec o l s'
  | .host f :: l, s => f s >>= fun s' => exec o l s'

def budget : List (Item ε S) → Nat
  | [] => 0
  | .run n :: l => n + budget l
  | .host _ :: l => budget l

/-- Join adjacent `run` items (`run a :: run b :: l ↦ run (a + b) :: l`, recursively); host items
stay in place.  The result has no two adjacent `run` items. -/
def merge : List (Item ε S) → List (Item ε S)
  | [] => []
  | .host f :: l => .host f :: merge l
  | .run a :: l =>
    match merge l with
    | .run b :: l' => .run (a + b) :: l'
    | l' => .run a :: l'

def HostsOk (o : LoopOps ε S) (h : FastForwardOk o) (obs : S → O) (l : List (Item ε S)) : Prop :=
  ∀ f, Item.host f ∈ l → HostOk o h obs f

/-- `merge` of a script that starts with `run a`, from the merged tail `m`. -/
def consRun (a : Nat) : List (Item ε S) → List (Item ε S)
  | .run b :: l' => .run (a + b) :: l'
  | l' => .run a :: l'

theorem merge_run (a : Nat) (l : List (Item ε S)) : merge (.run a :: l) = consRun a (merge l) := by
  rw [merge]
  cases merge l with
  | nil => rfl
  | cons x l' => cases x <;> rfl

theorem consRun_consRun (a b : Nat) : ∀ m : List (Item ε S), consRun a (consRun b m) = consRun (a + b) m
  | [] => rfl
  | .host _ :: _ => rfl
  | .run c :: m => congrArg (Item.run · :: m) (Nat.add_assoc a b c).symm

theorem budget_consRun (a : Nat) : ∀ m : List (Item ε S), budget (consRun a m) = a + budget m
  | [] => rfl
  | .host _ :: _ => rfl
  | .run b :: m => Nat.add_assoc a b (budget m)

theorem host_mem_consRun (f : S → Except ε S) (a : Nat) :
    ∀ m : List (Item ε S), Item.host f ∈ consRun a m ↔ Item.host f ∈ m
  | [] => by simp [consRun]
  | .host _ :: _ => by simp [consRun]
  | .run _ :: _ => by simp [consRun]

/-- `merge` really is the stated rewrite rule. -/
theorem merge_run_run (a b : Nat) (l : List (Item ε S)) :
    merge (.run a :: .run b :: l) = merge (.run (a + b) :: l) := by
  rw [merge_run, merge_run, merge_run, consRun_consRun]

theorem budget_merge : ∀ l : List (Item ε S), budget (merge l) = budget l
  | [] => rfl
  | .host f :: l => by simp only [merge, budget, budget_merge l]
  | .run a :: l => by rw [merge_run, budget_consRun, budget_merge l]; rfl

theorem host_mem_merge (f : S → Except ε S) : ∀ l : List (Item ε S), Item.host f ∈ merge l ↔ Item.host f ∈ l
  | [] => Iff.rfl
  | .host g :: l => by simp only [merge, List.mem_cons, host_mem_merge f l]
  | .run a :: l => by
    rw [merge_run, host_mem_consRun, host_mem_merge f l]
    simp only [List.mem_cons, reduceCtorEq, false_or]

theorem HostsOk.merge {h : FastForwardOk o} {obs : S → O} {l : List (Item ε S)} :
    HostsOk o h obs (merge l) ↔ HostsOk o h obs l :=
  ⟨fun hl f hf => hl f ((host_mem_merge f l).2 hf), fun hl f hf => hl f ((host_mem_merge f l).1 hf)⟩

theorem merge_consRun (a : Nat) : ∀ m : List (Item ε S), merge (consRun a m) = consRun a (merge m)
  | [] => rfl
  | .host f :: m => merge_run a (.host f :: m)
  | .run b :: m => by
    show merge (.run (a + b) :: m) = consRun a (merge (.run b :: m))
    rw [merge_run, merge_run, consRun_consRun]

theorem merge_merge : ∀ l : List (Item ε S), merge (merge l) = merge l
  | [] => rfl
  | .host f :: l => by simp only [merge, merge_merge l]
  | .run a :: l => by rw [merge_run, merge_consRun, merge_merge l]

/-- One call of `Run(n)` from two observationally equal states. -/
theorem run_congr {obs : S → O} (h : FastForwardOk o) (hob : ObsOk o h obs) (n : Nat) (hn : n ≤ h.bound)
    (s t : S) (hps : h.P s) (hpt : h.P t) (hst : obs s = obs t) :
    (o.run n s).map obs = (o.run n t).map obs := by
  rw [run_eq_cycles h n hn s (hob.P_start s hps), run_eq_cycles h n hn t (hob.P_start t hpt)]
  exact cyclesN_congr hob n _ _ (hob.P_start s hps) (hob.P_start t hpt)
    (by rw [hob.start_obs, hob.start_obs, hst])

/-- What an item does.  Within the bound `Run(n)` is itself an admissible action (`run_ok`), and
admissible actions compose (`HostOk.bind`), so a script is one (`exec_ok`). -/
def Item.act (o : LoopOps ε S) : Item ε S → S → Except ε S
  | .run n => o.run n
  | .host f => f

theorem exec_cons (x : Item ε S) (l : List (Item ε S)) (s : S) :
    exec o (x :: l) s = x.act o s >>= fun s' => exec o l s' := by
  cases x <;> rfl

theorem run_ok {obs : S → O} (h : FastForwardOk o) (hob : ObsOk o h obs) (n : Nat) (hn : n ≤ h.bound) :
    HostOk o h obs (o.run n) :=
  ⟨fun s s' hp => P_run h hob n hn s s' hp, run_congr h hob n hn⟩

theorem Item.act_ok {obs : S → O} {h : FastForwardOk o} (hob : ObsOk o h obs) {x : Item ε S} {l : List (Item ε S)}
    (hl : HostsOk o h obs (x :: l)) (hb : budget (x :: l) ≤ h.bound) :
    HostOk o h obs (x.act o) ∧ HostsOk o h obs l ∧ budget l ≤ h.bound := by
  refine ⟨?_, fun f hf => hl f (List.mem_cons_of_mem _ hf), ?_⟩
  · cases x with
    | run n => exact run_ok h hob n (Nat.le_of_add_right_le hb)
    | host f => exact hl f (List.mem_cons_self ..)
  · cases x with
    | run n => exact Nat.le_of_add_left_le hb
    | host f => exact hb

theorem HostOk.bind {obs : S → O} {h : FastForwardOk o} {f g : S → Except ε S} (hf : HostOk o h obs f)
    (hg : HostOk o h obs g) : HostOk o h obs fun s => f s >>= g where
  keepsP := fun s s' hp he => by
    obtain ⟨s1, h1, he⟩ := Except.bind_eq_ok.mp he
    exact hg.keepsP s1 s' (hf.keepsP s s1 hp h1) he
  congr := fun s t hps hpt hst =>
    Except.map_bind_congr (hf.congr s t hps hpt hst) fun a b h1 h2 hab =>
      hg.congr a b (hf.keepsP s a hps h1) (hf.keepsP t b hpt h2) hab

theorem exec_ok {obs : S → O} (h : FastForwardOk o) (hob : ObsOk o h obs) :
    ∀ (l : List (Item ε S)), HostsOk o h obs l → budget l ≤ h.bound → HostOk o h obs (exec o l)
  | [], _, _ => ⟨fun s s' hp he => by cases he; exact hp, fun s t _ _ hst => congrArg Except.ok hst⟩
  | x :: l, hl, hb => by
    obtain ⟨hx, hl', hb'⟩ := Item.act_ok hob hl hb
    exact funext (exec_cons x l) ▸ hx.bind (exec_ok h hob l hl' hb')

/-- **A script respects the observation**: from two states that satisfy the invariant and are
observationally equal, a script gives observationally equal results (including aborts). -/
theorem exec_congr {obs : S → O} (h : FastForwardOk o) (hob : ObsOk o h obs) :
    ∀ (l : List (Item ε S)), HostsOk o h obs l → budget l ≤ h.bound →
      ∀ s t, h.P s → h.P t → obs s = obs t → (exec o l s).map obs = (exec o l t).map obs :=
  fun l hl hb => (exec_ok h hob l hl hb).congr

/-- **A zero-length slice is unobservable**: `Run(0)` may be inserted in front of any script. -/
theorem exec_run_zero {obs : S → O} (h : FastForwardOk o) (hob : ObsOk o h obs) (l : List (Item ε S))
    (hl : HostsOk o h obs l) (hb : budget l ≤ h.bound) (s : S) (hp : h.P s) :
    (exec o (.run 0 :: l) s).map obs = (exec o l s).map obs := by
  have hr : o.run 0 s = .ok (o.start s) := by
    rw [run_eq_cycles h 0 (Nat.zero_le _) s (hob.P_start s hp)]; rfl
  simp only [exec, hr]
  exact exec_congr h hob l hl hb (o.start s) s (hob.P_start s hp) hp (hob.start_obs s)

theorem exec_append (l₁ l₂ : List (Item ε S)) : ∀ s, exec o (l₁ ++ l₂) s = exec o l₁ s >>= fun s' => exec o l₂ s' := by
  induction l₁ with
  | nil => intro s; rfl
  | cons x l₁ ih =>
    intro s
    rw [List.cons_append, exec_cons, exec_cons, bind_assoc]
    exact Except.bind_congr_ok fun s1 _ => ih s1

theorem budget_append (l₁ l₂ : List (Item ε S)) : budget (l₁ ++ l₂) = budget l₁ + budget l₂ := by
  induction l₁ with
  | nil => simp [budget]
  | cons x l₁ ih => cases x <;> simp only [List.cons_append, budget, ih] <;> omega

/-- … and a `Run(0)` may be inserted anywhere in a script. -/
theorem exec_insert_run_zero {obs : S → O} (h : FastForwardOk o) (hob : ObsOk o h obs) (l₁ l₂ : List (Item ε S))
    (hl : HostsOk o h obs (l₁ ++ l₂)) (hb : budget (l₁ ++ l₂) ≤ h.bound) (s : S) (hp : h.P s) :
    (exec o (l₁ ++ .run 0 :: l₂) s).map obs = (exec o (l₁ ++ l₂) s).map obs := by
  have hl1 : HostsOk o h obs l₁ := fun f hf => hl f (List.mem_append_left _ hf)
  have hl2 : HostsOk o h obs l₂ := fun f hf => hl f (List.mem_append_right _ hf)
  rw [budget_append] at hb
  rw [exec_append, exec_append]
  cases he : exec o l₁ s with
  | error e => rfl
  | ok s1 =>
    exact exec_run_zero h hob l₂ hl2 (Nat.le_of_add_left_le hb) s1
      ((exec_ok h hob l₁ hl1 (Nat.le_of_add_right_le hb)).keepsP s s1 hp he)

/-- A slice in front of a script may be joined with the script's first slice (`run_slice`). -/
theorem exec_consRun {obs : S → O} (h : FastForwardOk o) (hob : ObsOk o h obs) (a : Nat) :
    ∀ (m : List (Item ε S)), HostsOk o h obs m → a + budget m ≤ h.bound →
      ∀ s, h.P s → (exec o (consRun a m) s).map obs = (exec o (.run a :: m) s).map obs
  | [], _, _, _, _ => rfl
  | .host _ :: _, _, _, _, _ => rfl
  | .run b :: l', hl, hb, s, hp => by
    obtain ⟨-, hl', hb'⟩ := Item.act_ok hob hl (Nat.le_of_add_left_le hb)
    have hab : a + b ≤ h.bound := Nat.le_trans (Nat.add_le_add_left (Nat.le_add_right b (budget l')) a) hb
    show (o.run (a + b) s >>= fun s'' => exec o l' s'').map obs =
      (o.run a s >>= fun s' => o.run b s' >>= fun s'' => exec o l' s'').map obs
    rw [← bind_assoc]
    exact Except.map_bind_congr (run_slice h hob a b hab s hp) fun x y h2 h3 hxy =>
      (exec_ok h hob l' hl' hb').congr x y ((run_ok h hob (a + b) hab).keepsP s x hp h2)
        (((run_ok h hob a (Nat.le_of_add_right_le hab)).bind (run_ok h hob b (Nat.le_of_add_left_le hab))).keepsP s y hp
          h3) hxy

/-- **Merging adjacent slices is unobservable.** -/
theorem exec_merge {obs : S → O} (h : FastForwardOk o) (hob : ObsOk o h obs) :
    ∀ (l : List (Item ε S)), HostsOk o h obs l → budget l ≤ h.bound →
      ∀ s, h.P s → (exec o l s).map obs = (exec o (merge l) s).map obs
  | [], _, _, _, _ => rfl
  | x :: l, hl, hb, s, hp => by
    obtain ⟨hx, hl', hb'⟩ := Item.act_ok hob hl hb
    -- first merge the tail
    have h1 : (exec o (x :: l) s).map obs = (exec o (x :: merge l) s).map obs := by
      rw [exec_cons, exec_cons]
      cases hr : x.act o s with
      | error e => rfl
      | ok s1 => exact exec_merge h hob l hl' hb' s1 (hx.keepsP s s1 hp hr)
    cases x with
    | host f => exact h1
    | run a =>
      rw [h1, merge_run]
      exact (exec_consRun h hob a (merge l) (HostsOk.merge.2 hl') ((budget_merge l).symm ▸ hb) s hp).symm

/-- **Slicing with host events.**  Two scripts with the same `merge` — the same host actions in the
same order at the same cumulative cycle positions, and any slicing of the cycles in between — give
the same observation from the same state.  (Hypotheses on `l₁` only: `l₂` has the same host items
and the same budget.) -/
theorem exec_same_merge {obs : S → O} (h : FastForwardOk o) (hob : ObsOk o h obs) (l₁ l₂ : List (Item ε S))
    (hm : merge l₁ = merge l₂) (hl : HostsOk o h obs l₁) (hb : budget l₁ ≤ h.bound) (s : S) (hp : h.P s) :
    (exec o l₁ s).map obs = (exec o l₂ s).map obs := by
  have hl2 : HostsOk o h obs l₂ := HostsOk.merge.1 (hm ▸ HostsOk.merge.2 hl)
  have hb2 : budget l₂ ≤ h.bound := by rw [← budget_merge l₂, ← hm, budget_merge]; exact hb
  rw [exec_merge h hob l₁ hl hb s hp, exec_merge h hob l₂ hl2 hb2 s hp, hm]

/-- The same from two observationally equal states. -/
theorem exec_same_merge' {obs : S → O} (h : FastForwardOk o) (hob : ObsOk o h obs) (l₁ l₂ : List (Item ε S))
    (hm : merge l₁ = merge l₂) (hl : HostsOk o h obs l₁) (hb : budget l₁ ≤ h.bound) (s t : S) (hps : h.P s)
    (hpt : h.P t) (hst : obs s = obs t) :
    (exec o l₁ s).map obs = (exec o l₂ t).map obs := by
  rw [← exec_same_merge h hob l₁ l₂ hm hl hb t hpt]
  exact exec_congr h hob l₁ hl hb s t hps hpt hst

/-- `run_partition` of `Proofs/C06.lean` is the special case without host items. -/
theorem exec_runs (ns : List Nat) : ∀ s, exec o (ns.map Item.run) s = runSlices o ns s := by
  induction ns with
  | nil => intro s; rfl
  | cons n ns ih =>
    intro s
    simp only [List.map_cons, exec, runSlices]
    cases o.run n s with
    | error e => rfl
    | ok s1 => exact ih s1

end Teakra.LoopOps
