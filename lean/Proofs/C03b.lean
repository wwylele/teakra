import Proofs.C03Exec
/-!
# C03, second part — the `Moda` family, the logic / test / compare forms of `AlmGeneric`,
operand extension

Handler-level theorems: what `moda` (inc, dec, neg, rnd, clr, clrr, copy, not) and the
`or`/`and`/`xor`/`tst0`/`tst1`/`cmp`/`cmpu` forms of `almGeneric` leave in the machine state, stated
against exact 40-bit arithmetic, and that a failing condition leaves the state unchanged.
-/
namespace Teakra.Interp
open Teakra Exec ExecLemmas Alu

/-! ## `Moda` -/

/-- `RegisterState::ConditionPass` as a function of the register file. -/
def condHolds (r : Regs) : CondValue → Bool
  | .true_ => true
  | .eq => r.fz == 1
  | .neq => r.fz == 0
  | .gt => r.fz == 0 && r.fm == 0
  | .ge => r.fm == 0
  | .lt => r.fm == 1
  | .le => r.fm == 1 || r.fz == 1
  | .nn => r.fn == 0
  | .c => r.fc0 == 1
  | .v => r.fv == 1
  | .e => r.fe == 1
  | .l => r.flm == 1 || r.fvl == 1
  | .nr => r.fr == 0
  | .niu0 => r.iu[0] == 0
  | .iu0 => r.iu[0] == 1
  | .iu1 => r.iu[1] == 1

theorem condHolds_eq_condVal (r : Regs) (cond : CondValue) : condHolds r cond = Sys.condVal cond r := by
  cases cond <;> rfl

theorem run_conditionPass (cond : CondValue) (c : Core) :
    (conditionPass cond).run c = .ok (condHolds c.regs cond, c) := by
  rw [condHolds_eq_condVal, Sys.conditionPass_run]

/-- **A failing condition leaves the state unchanged** — for every `Moda` operation. -/
theorem moda_fail (op : ModaOp) (a : RegName) (cond : CondValue) (c : Core)
    (h : condHolds c.regs cond = false) : (Exec.moda op a cond).run c = .ok ((), c) := by
  unfold Exec.moda
  simp only [run_bind, run_conditionPass, except_ok_bind, h, Bool.false_eq_true, if_false, run_pure]

theorem moda_inc_run (a : RegName) (k : Bool × Fin 2) (h : accIndex a = some k) (cond : CondValue)
    (c : Core) (hp : condHolds c.regs cond = true) :
    (Exec.moda .inc a cond).run c = .ok ((), withRegs c (addSubWrite c.regs k (accOf c.regs k) 1 false)) := by
  unfold Exec.moda addSubWrite withRegs
  simp only [run_bind, run_conditionPass, except_ok_bind, hp, if_true, run_getAcc _ k h, run_addSub_regs,
    run_satAndSetAccAndFlag _ k h]

theorem moda_dec_run (a : RegName) (k : Bool × Fin 2) (h : accIndex a = some k) (cond : CondValue)
    (c : Core) (hp : condHolds c.regs cond = true) :
    (Exec.moda .dec a cond).run c = .ok ((), withRegs c (addSubWrite c.regs k (accOf c.regs k) 1 true)) := by
  unfold Exec.moda addSubWrite withRegs
  simp only [run_bind, run_conditionPass, except_ok_bind, hp, if_true, run_getAcc _ k h, run_addSub_regs,
    run_satAndSetAccAndFlag _ k h]

theorem moda_rnd_run (a : RegName) (k : Bool × Fin 2) (h : accIndex a = some k) (cond : CondValue)
    (c : Core) (hp : condHolds c.regs cond = true) :
    (Exec.moda .rnd a cond).run c = .ok ((), withRegs c (addSubWrite c.regs k (accOf c.regs k) 0x8000 false)) := by
  unfold Exec.moda addSubWrite withRegs
  simp only [run_bind, run_conditionPass, except_ok_bind, hp, if_true, run_getAcc _ k h, run_addSub_regs,
    run_satAndSetAccAndFlag _ k h]

/-- **inc / dec / rnd are exact.**  The accumulator receives `v + 1`, `v − 1`, `v + 0x8000` wrapped
to 40 bits (clamped to 32 bits when saturation-on-write is enabled, limit flag set exactly then);
carry / overflow (latched) are those of that addition or subtraction; zero / minus / extension are
the flags of the unsaturated 40-bit result. -/
theorem moda_incdecrnd_spec (r : Regs) (k : Bool × Fin 2) (b : U64) (d : Int) (sub : Bool)
    (hb : (b = 1 ∧ d = 1) ∨ (b = 0x8000 ∧ d = 0x8000)) :
    let exact : Int := if sub then I40 (accOf r k) - d else I40 (accOf r k) + d
    let r' := addSubWrite r k (accOf r k) b sub
    I40 (accOf r' k) = (if r.sata = 0 then max (-2 ^ 31) (min (2 ^ 31 - 1) (wrap40 exact)) else wrap40 exact) ∧
    r'.fc0 = b2u (if sub then decide (U40 (accOf r k) < d.toNat) else decide (2 ^ 40 ≤ U40 (accOf r k) + d.toNat)) ∧
    r'.fv = b2u (decide (exact < -2 ^ 39 ∨ 2 ^ 39 ≤ exact)) ∧
    r'.fvl = (if exact < -2 ^ 39 ∨ 2 ^ 39 ≤ exact then 1 else r.fvl) ∧
    r'.fz = b2u (decide (wrap40 exact = 0)) ∧ r'.fm = b2u (decide (wrap40 exact < 0)) ∧
    r'.fe = b2u (decide (wrap40 exact < -2 ^ 31 ∨ 2 ^ 31 ≤ wrap40 exact)) ∧
    r'.flm = (if r.sata = 0 ∧ (wrap40 exact < -2 ^ 31 ∨ 2 ^ 31 ≤ wrap40 exact) then 1 else r.flm) := by
  -- for either constant `I40 b` is `d` and `U40 b` is `d.toNat` by evaluation
  rcases hb with ⟨rfl, rfl⟩ | ⟨rfl, rfl⟩ <;> exact addSubWrite_spec r k (accOf r k) _ sub _ rfl

/-! ### clr / clrr / copy -/

theorem moda_clr_run (a : RegName) (k : Bool × Fin 2) (h : accIndex a = some k) (cond : CondValue)
    (c : Core) (hp : condHolds c.regs cond = true) :
    (Exec.moda .clr a cond).run c = .ok ((), withRegs c (setFlagRegs c.regs k 0)) := by
  unfold Exec.moda withRegs
  simp only [run_bind, run_conditionPass, except_ok_bind, hp, if_true, run_satAndSetAccAndFlag _ k h]
  rw [satSetRegs_fits _ _ 0 (by decide)]

theorem moda_clrr_run (a : RegName) (k : Bool × Fin 2) (h : accIndex a = some k) (cond : CondValue)
    (c : Core) (hp : condHolds c.regs cond = true) :
    (Exec.moda .clrr a cond).run c = .ok ((), withRegs c (setFlagRegs c.regs k 0x8000)) := by
  unfold Exec.moda withRegs
  simp only [run_bind, run_conditionPass, except_ok_bind, hp, if_true, run_satAndSetAccAndFlag _ k h]
  rw [satSetRegs_fits _ _ 0x8000 (by decide)]

theorem setFlagRegs_fields (r : Regs) (k : Bool × Fin 2) (v : U64) :
    accOf (setFlagRegs r k v) k = v ∧ (setFlagRegs r k v).fz = (accFlags v).fz ∧
    (setFlagRegs r k v).fm = (accFlags v).fm ∧ (setFlagRegs r k v).fe = (accFlags v).fe ∧
    (setFlagRegs r k v).fn = (accFlags v).fn ∧ (setFlagRegs r k v).flm = r.flm ∧
    (setFlagRegs r k v).fc0 = r.fc0 ∧ (setFlagRegs r k v).fv = r.fv ∧ (setFlagRegs r k v).fvl = r.fvl := by
  simp only [setFlagRegs, accOf_setAccOf, setAccOf_frame]
  exact ⟨trivial, rfl, rfl, rfl, rfl, rfl, rfl, rfl, rfl⟩

/-- **`SetAccAndFlag` — flags of the value, no saturation.**  The accumulator receives `v` itself
(also when it does not fit 32 bits and saturation-on-write is enabled), zero / minus / extension /
normalized are the flags of `v`, and carry, overflow, latched overflow and the limit flag are
untouched. -/
theorem setFlagRegs_spec (r : Regs) (k : Bool × Fin 2) (v : U64) (hv : AccWF v) :
    let r' := setFlagRegs r k v
    accOf r' k = v ∧
    r'.fz = b2u (decide (I40 v = 0)) ∧ r'.fm = b2u (decide (I40 v < 0)) ∧
    r'.fe = b2u (decide (I40 v < -2 ^ 31 ∨ 2 ^ 31 ≤ I40 v)) ∧
    r'.fn = b2u (decide (I40 v = 0) || (!decide (I40 v < -2 ^ 31 ∨ 2 ^ 31 ≤ I40 v) &&
                (v.getLsbD 31 != v.getLsbD 30))) ∧
    r'.fc0 = r.fc0 ∧ r'.fv = r.fv ∧ r'.fvl = r.fvl ∧ r'.flm = r.flm := by
  obtain ⟨hz, hm, he, hn⟩ := accFlags_spec v hv
  obtain ⟨f0, f1, f2, f3, f4, f5, f6, f7, f8⟩ := setFlagRegs_fields r k v
  exact ⟨f0, f1.trans hz, f2.trans hm, f3.trans he, f4.trans hn, f6, f7, f8, f5⟩

/-- **clr / clrr.**  The accumulator becomes 0 (resp. `0x8000`, the rounding constant); the flags are
those of that constant (`fz = 1, fn = 1` for 0; all clear for `0x8000`); nothing is saturated and
carry / overflow / limit are untouched. -/
theorem moda_clr_spec (r : Regs) (k : Bool × Fin 2) :
    accOf (setFlagRegs r k 0) k = 0 ∧ (setFlagRegs r k 0).fz = 1 ∧ (setFlagRegs r k 0).fm = 0 ∧
    (setFlagRegs r k 0).fe = 0 ∧ (setFlagRegs r k 0).fn = 1 ∧ (setFlagRegs r k 0).flm = r.flm ∧
    (setFlagRegs r k 0).fc0 = r.fc0 ∧ (setFlagRegs r k 0).fv = r.fv ∧ (setFlagRegs r k 0).fvl = r.fvl :=
  setFlagRegs_fields r k 0

theorem moda_clrr_spec (r : Regs) (k : Bool × Fin 2) :
    accOf (setFlagRegs r k 0x8000) k = 0x8000 ∧ (setFlagRegs r k 0x8000).fz = 0 ∧
    (setFlagRegs r k 0x8000).fm = 0 ∧ (setFlagRegs r k 0x8000).fe = 0 ∧ (setFlagRegs r k 0x8000).fn = 0 ∧
    (setFlagRegs r k 0x8000).flm = r.flm ∧ (setFlagRegs r k 0x8000).fc0 = r.fc0 ∧
    (setFlagRegs r k 0x8000).fv = r.fv ∧ (setFlagRegs r k 0x8000).fvl = r.fvl :=
  setFlagRegs_fields r k 0x8000

/-- The source of `copy`: `a1` when the destination is `a0`, otherwise `a0` (the C++ notes that the
`b` accumulators are not supported — for them the source is `a0` as well). -/
def copySource (a : RegName) : Bool × Fin 2 := if a == .a0 then (false, 1) else (false, 0)

theorem moda_copy_run (a : RegName) (k : Bool × Fin 2) (h : accIndex a = some k) (cond : CondValue)
    (c : Core) (hp : condHolds c.regs cond = true) :
    (Exec.moda .copy a cond).run c =
      .ok ((), withRegs c (satSetRegs c.regs k (accOf c.regs (copySource a)))) := by
  have hsrc : accIndex (if a == RegName.a0 then RegName.a1 else RegName.a0) = some (copySource a) := by
    unfold copySource; split <;> rfl
  unfold Exec.moda withRegs
  simp only [run_bind, run_conditionPass, except_ok_bind, hp, if_true, run_getAcc _ _ hsrc,
    run_satAndSetAccAndFlag _ k h]

/-- **copy.**  `a0` is copied from `a1` and `a1` from `a0`; the (well-formed) source value goes
through the saturating write: clamped to 32 bits with `flm` set when saturation-on-write is enabled
and it does not fit, flags of the unsaturated value, carry / overflow untouched. -/
theorem moda_copy_spec (r : Regs) (a : RegName) (k : Bool × Fin 2)
    (hwf : AccWF (accOf r (copySource a))) :
    copySource .a0 = (false, 1) ∧ copySource .a1 = (false, 0) ∧
    let v := accOf r (copySource a)
    let r' := satSetRegs r k v
    I40 (accOf r' k) = (if r.sata = 0 then max (-2 ^ 31) (min (2 ^ 31 - 1) (I40 v)) else I40 v) ∧
    r'.fz = b2u (decide (I40 v = 0)) ∧ r'.fm = b2u (decide (I40 v < 0)) ∧
    r'.fe = b2u (decide (I40 v < -2 ^ 31 ∨ 2 ^ 31 ≤ I40 v)) ∧
    r'.flm = (if r.sata = 0 ∧ (I40 v < -2 ^ 31 ∨ 2 ^ 31 ≤ I40 v) then 1 else r.flm) ∧
    r'.fc0 = r.fc0 ∧ r'.fv = r.fv ∧ r'.fvl = r.fvl := by
  refine ⟨by decide, by decide, ?_⟩
  intro v r'
  obtain ⟨h1, h2, h3, h4, h5⟩ := satSetRegs_spec r k v hwf
  obtain ⟨f1, f2, f3⟩ := satSetRegs_frame r k v
  exact ⟨h1, h2, h3, h4, h5, f1, f2, f3⟩

/-! ### not / neg -/

theorem moda_not_run (a : RegName) (k : Bool × Fin 2) (h : accIndex a = some k) (cond : CondValue)
    (c : Core) (hp : condHolds c.regs cond = true) :
    (Exec.moda .not_ a cond).run c = .ok ((), withRegs c (setFlagRegs c.regs k (~~~ accOf c.regs k))) := by
  unfold Exec.moda
  simp only [run_bind, run_conditionPass, except_ok_bind, hp, if_true, run_getAcc _ k h,
    run_setAccAndFlag _ k h]

/-- **not.**  The accumulator receives the bitwise complement `−v − 1` of the (well-formed) 40-bit
value — never saturated — with the flags of that value; carry, overflow and limit are untouched. -/
theorem moda_not_spec (r : Regs) (k : Bool × Fin 2) (hwf : AccWF (accOf r k)) :
    let r' := setFlagRegs r k (~~~ accOf r k)
    accOf r' k = ~~~ accOf r k ∧ I40 (accOf r' k) = -(I40 (accOf r k)) - 1 ∧
    r'.fz = b2u (decide (-(I40 (accOf r k)) - 1 = 0)) ∧ r'.fm = b2u (decide (-(I40 (accOf r k)) - 1 < 0)) ∧
    r'.fe = b2u (decide (-(I40 (accOf r k)) - 1 < -2 ^ 31 ∨ 2 ^ 31 ≤ -(I40 (accOf r k)) - 1)) ∧
    r'.fc0 = r.fc0 ∧ r'.fv = r.fv ∧ r'.fvl = r.fvl ∧ r'.flm = r.flm := by
  intro r'
  have h := setFlagRegs_spec r k (~~~ accOf r k) (not_wf _ hwf)
  simp only [] at h
  rw [I40_not] at h
  obtain ⟨h1, h2, h3, h4, _, h6, h7, h8, h9⟩ := h
  exact ⟨h1, (congrArg I40 h1).trans (I40_not _), h2, h3, h4, h6, h7, h8, h9⟩

def withNegFlags (r : Regs) (v : U64) : Regs :=
  { r with fc0 := b2u (v != 0), fv := b2u (v == 0xFFFFFF8000000000),
           fvl := if b2u (v == 0xFFFFFF8000000000) != 0 then 1 else r.fvl }

def negRegs (r : Regs) (k : Bool × Fin 2) : Regs :=
  satSetRegs (withNegFlags r (accOf r k)) k (signExtend 40 (~~~ accOf r k + 1))

private theorem accOf_withNegFlags (r : Regs) (v : U64) (k : Bool × Fin 2) :
    accOf (withNegFlags r v) k = accOf r k := by
  obtain ⟨isB, i⟩ := k; cases isB <;> rfl

theorem moda_neg_run (a : RegName) (k : Bool × Fin 2) (h : accIndex a = some k) (cond : CondValue)
    (c : Core) (hp : condHolds c.regs cond = true) :
    (Exec.moda .neg a cond).run c = .ok ((), withRegs c (negRegs c.regs k)) := by
  unfold Exec.moda negRegs withRegs
  simp only [run_bind, run_conditionPass, except_ok_bind, hp, if_true, run_getAcc _ k h, run_modifyRegs,
    run_satAndSetAccAndFlag _ k h]
  have := accOf_withNegFlags c.regs (accOf c.regs k) k
  unfold withNegFlags at this ⊢
  rw [this]

/-- **neg.**  For a well-formed accumulator value `v`: the destination receives `−v` wrapped to 40
bits (clamped to 32 bits when saturation-on-write is enabled); carry is set exactly when `v ≠ 0`;
overflow exactly when `v = −2³⁹` (the one value whose negation does not fit), and it is latched;
zero / minus / extension are the flags of the unsaturated result. -/
theorem moda_neg_spec (r : Regs) (k : Bool × Fin 2) (hwf : AccWF (accOf r k)) :
    let v := I40 (accOf r k)
    let r' := negRegs r k
    I40 (accOf r' k) = (if r.sata = 0 then max (-2 ^ 31) (min (2 ^ 31 - 1) (wrap40 (-v))) else wrap40 (-v)) ∧
    r'.fc0 = b2u (decide (v ≠ 0)) ∧ r'.fv = b2u (decide (v = -2 ^ 39)) ∧
    r'.fvl = (if v = -2 ^ 39 then 1 else r.fvl) ∧
    r'.fz = b2u (decide (wrap40 (-v) = 0)) ∧ r'.fm = b2u (decide (wrap40 (-v) < 0)) ∧
    r'.fe = b2u (decide (wrap40 (-v) < -2 ^ 31 ∨ 2 ^ 31 ≤ wrap40 (-v))) ∧
    r'.flm = (if r.sata = 0 ∧ (wrap40 (-v) < -2 ^ 31 ∨ 2 ^ 31 ≤ wrap40 (-v)) then 1 else r.flm) := by
  intro v r'
  obtain ⟨h1, h2, h3, h4, h5⟩ :=
    satSetRegs_spec (withNegFlags r (accOf r k)) k _ (signExtend40_wf (~~~ accOf r k + 1))
  obtain ⟨f1, f2, f3⟩ := satSetRegs_frame (withNegFlags r (accOf r k)) k (signExtend 40 (~~~ accOf r k + 1))
  rw [I40_signExtend, I40_neg] at h1 h2 h3 h4 h5
  -- the two 64-bit comparisons of the code, read on the 40-bit value (`0xFFFFFF8000000000` is `−2³⁹`)
  have hne : ((accOf r k) != 0) = decide (v ≠ 0) := by
    rw [bne, wf_beq _ 0 hwf, decide_not]; rfl
  have hmin : ((accOf r k) == 0xFFFFFF8000000000) = decide (v = -2 ^ 39) := wf_beq _ _ hwf
  refine ⟨h1, f1.trans (congrArg b2u hne), f2.trans (congrArg b2u hmin), f3.trans ?_, h2, h3, h4, h5⟩
  show (if b2u ((accOf r k) == 0xFFFFFF8000000000) != 0 then (1 : U16) else r.fvl) = _
  rw [hmin]; exact latch_b2u _ _

/-- The carry of `neg` is computed on the 64-bit pattern: for a pattern that is NOT a sign-extended
40-bit value the claim "carry ⇔ the 40-bit value is non-zero" fails (witness `2⁴⁰`, whose 40-bit
value is 0) — hence the well-formedness hypothesis of `moda_neg_spec`. -/
def NegCarryForAnyPattern : Prop := ∀ v : U64, (v != 0) = decide (I40 v ≠ 0)

theorem negCarryForAnyPattern_false : ¬ NegCarryForAnyPattern := by
  intro h
  have := h (0x10000000000 : U64)
  revert this
  decide

/-- How the `moda4` / `moda3` handlers reach `moda`: the operation tables of `operand.h`. -/
theorem moda_handlers (op a cond : Nat) :
    Exec.moda4_Moda4_Ax_Cond op a cond = Exec.moda (Moda4.name op) (Ax.name a) (Cond.name cond) ∧
    Exec.moda3_Moda3_Bx_Cond op a cond = Exec.moda (Moda3.name op) (Bx.name a) (Cond.name cond) ∧
    (Moda4.name 6 = .clr ∧ Moda4.name 8 = .not_ ∧ Moda4.name 9 = .neg ∧ Moda4.name 10 = .rnd ∧
     Moda4.name 12 = .clrr ∧ Moda4.name 13 = .inc ∧ Moda4.name 14 = .dec ∧ Moda4.name 15 = .copy) ∧
    (Moda3.name 6 = .clr ∧ Moda3.name 7 = .clrr) ∧
    (accIndex (Ax.name 0) = some (false, 0) ∧ accIndex (Ax.name 1) = some (false, 1) ∧
     accIndex (Bx.name 0) = some (true, 0) ∧ accIndex (Bx.name 1) = some (true, 1)) :=
  ⟨rfl, rfl, ⟨rfl, rfl, rfl, rfl, rfl, rfl, rfl, rfl⟩, ⟨rfl, rfl⟩, ⟨rfl, rfl, rfl, rfl⟩⟩

/-! ## `AlmGeneric`: logic, test and compare forms; operand extension -/

def almLogic : AlmOp → Option (U64 → U64 → U64)
  | .or_ => some (· ||| ·)
  | .and_ => some (· &&& ·)
  | .xor_ => some (· ^^^ ·)
  | _ => none

theorem alm_logic_run (op : AlmOp) (f : U64 → U64 → U64) (hf : almLogic op = some f) (a : U64)
    (b : RegName) (k : Bool × Fin 2) (h : accIndex b = some k) (c : Core) :
    (Exec.almGeneric op a b).run c =
      .ok ((), withRegs c (setFlagRegs c.regs k (signExtend 40 (f (accOf c.regs k) a)))) := by
  cases op <;> simp only [almLogic, Option.some.injEq, reduceCtorEq] at hf <;> subst hf <;>
    (unfold Exec.almGeneric
     simp only [run_bind, run_getAcc _ k h, except_ok_bind, run_setAccAndFlag _ k h])

theorem signExtend40_getLsbD (x : U64) (i : Nat) :
    (signExtend 40 x).getLsbD i = if i < 40 then x.getLsbD i else (decide (i < 64) && x.getLsbD 39) := by
  unfold signExtend
  rw [BitVec.getLsbD_signExtend, BitVec.getLsbD_setWidth, BitVec.msb_setWidth]
  by_cases h : i < 40
  · have : i < 64 := by omega
    simp [h, this]
  · simp [h]

/-- **or / and / xor.**  The accumulator receives the bitwise result of the low 40 bits,
sign-extended from bit 39 — never saturated; zero / minus / extension / normalized are the flags
of that value; carry, overflow, its latch and the limit flag are untouched. -/
theorem alm_logic_spec (r : Regs) (k : Bool × Fin 2) (f : U64 → U64 → U64) (g : Bool → Bool → Bool)
    (hfg : (f = (· ||| ·) ∧ g = (· || ·)) ∨ (f = (· &&& ·) ∧ g = (· && ·)) ∨ (f = (· ^^^ ·) ∧ g = (· ^^ ·)))
    (a : U64) :
    let v := signExtend 40 (f (accOf r k) a)
    let r' := setFlagRegs r k v
    accOf r' k = v ∧ AccWF v ∧ (∀ i, i < 40 → v.getLsbD i = g ((accOf r k).getLsbD i) (a.getLsbD i)) ∧
    r'.fz = b2u (decide (I40 v = 0)) ∧ r'.fm = b2u (decide (I40 v < 0)) ∧
    r'.fe = b2u (decide (I40 v < -2 ^ 31 ∨ 2 ^ 31 ≤ I40 v)) ∧
    r'.fn = b2u (decide (I40 v = 0) || (!decide (I40 v < -2 ^ 31 ∨ 2 ^ 31 ≤ I40 v) &&
                (v.getLsbD 31 != v.getLsbD 30))) ∧
    r'.fc0 = r.fc0 ∧ r'.fv = r.fv ∧ r'.fvl = r.fvl ∧ r'.flm = r.flm := by
  intro v r'
  have hwf : AccWF v := signExtend40_wf _
  obtain ⟨h1, h2, h3, h4, h5, h6, h7, h8, h9⟩ := setFlagRegs_spec r k v hwf
  refine ⟨h1, hwf, ?_, h2, h3, h4, h5, h6, h7, h8, h9⟩
  intro i hi
  show (signExtend 40 (f (accOf r k) a)).getLsbD i = _
  rw [signExtend40_getLsbD, if_pos hi]
  rcases hfg with ⟨hf, hg⟩ | ⟨hf, hg⟩ | ⟨hf, hg⟩ <;> subst hf hg
  · exact BitVec.getLsbD_or
  · exact BitVec.getLsbD_and
  · exact BitVec.getLsbD_xor

/-- **tst0 / tst1 write only the zero flag** (set when no tested bit of the low word is set, resp.
when every tested bit is set). -/
theorem alm_tst0_run (a : U64) (b : RegName) (k : Bool × Fin 2) (h : accIndex b = some k) (c : Core) :
    (Exec.almGeneric .tst0 a b).run c =
      .ok ((), withRegs c { c.regs with fz := b2u ((((accOf c.regs k) &&& 0xFFFF) &&& a) == 0) }) := by
  unfold Exec.almGeneric withRegs
  simp only [run_bind, run_getAcc _ k h, except_ok_bind, run_modifyRegs]

theorem alm_tst1_run (a : U64) (b : RegName) (k : Bool × Fin 2) (h : accIndex b = some k) (c : Core) :
    (Exec.almGeneric .tst1 a b).run c =
      .ok ((), withRegs c { c.regs with fz := b2u ((((accOf c.regs k) &&& 0xFFFF) &&& ~~~a) == 0) }) := by
  unfold Exec.almGeneric withRegs
  simp only [run_bind, run_getAcc _ k h, except_ok_bind, run_modifyRegs]

def cmpRegs (r : Regs) (k : Bool × Fin 2) (a : U64) : Regs :=
  withAccFlags (withAddSubFlags r (Alu.addSub (accOf r k) a true)) (Alu.addSub (accOf r k) a true).result

/-- **cmp / cmpu write flags only.** -/
theorem alm_cmp_run (op : AlmOp) (hop : op = .cmp ∨ op = .cmpu) (a : U64) (b : RegName)
    (k : Bool × Fin 2) (h : accIndex b = some k) (c : Core) :
    (Exec.almGeneric op a b).run c = .ok ((), withRegs c (cmpRegs c.regs k a)) := by
  rcases hop with hop | hop <;> subst hop <;>
    (unfold Exec.almGeneric cmpRegs withRegs
     simp only [run_bind, run_getAcc _ k h, except_ok_bind, run_addSub_regs]
     rfl)

/-- **Compare forms change flags only**, and the flags are those of the exact 40-bit difference
`acc − a`: borrow, overflow (latched), zero, minus, extension; no accumulator changes and the limit
flag is untouched. -/
theorem cmpRegs_spec (r : Regs) (k : Bool × Fin 2) (a : U64) :
    let exact : Int := I40 (accOf r k) - I40 a
    let r' := cmpRegs r k a
    (∀ k', accOf r' k' = accOf r k') ∧
    r'.fc0 = b2u (decide (U40 (accOf r k) < U40 a)) ∧
    r'.fv = b2u (decide (exact < -2 ^ 39 ∨ 2 ^ 39 ≤ exact)) ∧
    r'.fvl = (if exact < -2 ^ 39 ∨ 2 ^ 39 ≤ exact then 1 else r.fvl) ∧
    r'.fz = b2u (decide (wrap40 exact = 0)) ∧ r'.fm = b2u (decide (wrap40 exact < 0)) ∧
    r'.fe = b2u (decide (wrap40 exact < -2 ^ 31 ∨ 2 ^ 31 ≤ wrap40 exact)) ∧ r'.flm = r.flm := by
  obtain ⟨hz, hm, he, -⟩ := accFlags_spec _ (addSub_wf (accOf r k) a true)
  obtain ⟨c1, c2, c3⟩ := withAddSubFlags_spec r (accOf r k) a true
  rw [addSub_value] at hz hm he
  exact ⟨fun k' => cmp_keeps_accumulators r _ _ k', c1, c2, c3, hz, hm, he, rfl⟩

/-- **`ExtendOperandForAlm`**: a 16-bit operand is read signed for `cmp` / `sub` / `add`, as the
(signed) high half `a · 2¹⁶` for `addh` / `subh`, and unsigned otherwise. -/
theorem extendOperandForAlm_spec (op : AlmOp) (a : U16) :
    (Exec.extendOperandForAlm op a).toInt =
      if op = .cmp ∨ op = .sub ∨ op = .add then a.toInt
      else if op = .addh ∨ op = .subh then a.toInt * 2 ^ 16 else (a.toNat : Int) := by
  have hlt := a.isLt
  have signed : (signExtend 16 (a.setWidth 64)).toInt = a.toInt := by
    rw [toInt_signExtend 16 _ (by decide), BitVec.setWidth_setWidth_of_le _ (by decide), BitVec.setWidth_eq]
  have unsigned : (a.setWidth 64 : U64).toInt = (a.toNat : Int) := by
    rw [BitVec.toInt_eq_toNat_cond, BitVec.toNat_setWidth]
    split <;> omega
  cases op
  case cmp | sub | add => exact signed
  case addh | subh => exact toInt_high16 a
  all_goals exact unsigned

/-! ## the hypotheses are satisfiable, the effects are visible -/

/-- A passing and a failing condition on the reset state. -/
example : condHolds ({} : Regs) .true_ = true ∧ condHolds ({} : Regs) .eq = false := by decide

/-- The accumulators of the reset state are well formed. -/
example : AccWF (accOf ({} : Regs) (false, 0)) := by decide

/-- `neg` of `−2³⁹` overflows (and with saturation on the result is the lower bound `−2³¹`), `neg 5 = −5`
with carry. -/
example : (negRegs { ({} : Regs) with a := #v[0xFFFFFF8000000000, 0], sata := 0 } (false, 0)).fv = 1 ∧
    accOf (negRegs { ({} : Regs) with a := #v[0xFFFFFF8000000000, 0], sata := 0 } (false, 0)) (false, 0)
      = 0xFFFFFFFF80000000 ∧
    accOf (negRegs { ({} : Regs) with a := #v[5, 0] } (false, 0)) (false, 0) = 0xFFFFFFFFFFFFFFFB ∧
    (negRegs { ({} : Regs) with a := #v[5, 0] } (false, 0)).fc0 = 1 := by decide

/-- `inc` saturates at `0x7FFFFFFF` when saturation-on-write is enabled, and does not otherwise. -/
example :
    accOf (addSubWrite { ({} : Regs) with a := #v[0x7FFFFFFF, 0], sata := 0 } (false, 0) 0x7FFFFFFF 1 false)
      (false, 0) = 0x7FFFFFFF ∧
    (addSubWrite { ({} : Regs) with a := #v[0x7FFFFFFF, 0], sata := 0 } (false, 0) 0x7FFFFFFF 1 false).flm = 1 ∧
    accOf (addSubWrite { ({} : Regs) with a := #v[0x7FFFFFFF, 0], sata := 1 } (false, 0) 0x7FFFFFFF 1 false)
      (false, 0) = 0x80000000 := by decide

/-- `not` is never saturated; `or` sign-extends from bit 39. -/
example : accOf (setFlagRegs { ({} : Regs) with sata := 0 } (false, 1) (~~~ (0x7FFFFFFF : U64))) (false, 1)
      = 0xFFFFFFFF80000000 ∧
    signExtend 40 ((0x8000000000 : U64) ||| 1) = 0xFFFFFF8000000001 := by decide

/-- The three readings of a 16-bit ALM operand. -/
example : Exec.extendOperandForAlm .add 0x8000 = 0xFFFFFFFFFFFF8000 ∧
    Exec.extendOperandForAlm .addh 0x8000 = 0xFFFFFFFF80000000 ∧
    Exec.extendOperandForAlm .or_ 0x8000 = 0x8000 := by decide

end Teakra.Interp
