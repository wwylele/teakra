import TeakraModel.Icu
/-!
# C07 (interrupt-controller slice) — routing, request latching and acknowledge of the ICU

Property theorems about `Teakra.Icu` (model of `src/icu.h`); the tie to the C++ is the `icu`
correspondence slice.  This is the component part of C07: what `ICU::Trigger` hands to the
processor (`on_interrupt` / `on_vectored_interrupt`) and what stays pending in `request`.
-/
namespace Teakra.Icu

/-- The request lines named by a 16-bit word, in ascending order (the order of the C++ loop). -/
def triggered (irqBits : U16) : List (Fin 16) :=
  (List.finRange 16).filter fun (irq : Fin 16) => irqBits.getLsbD irq

theorem mem_triggered (irqBits : U16) (q : Fin 16) : q ∈ triggered irqBits ↔ irqBits.getLsbD q = true := by
  simp [triggered]

theorem getVector_eq (s : Icu) (q : Fin 16) : s.getVector q = s.vectorHigh[q] ++ s.vectorLow[q] := by
  rw [BitVec.append_def, BitVec.shiftLeftZeroExtend_eq, BitVec.setWidth'_eq, BitVec.or_comm]
  rfl

theorem interrupt_mem_irqEvents (s : Icu) (q : Fin 16) (line : Fin 3) :
    IcuEvent.interrupt line ∈ s.irqEvents q ↔ s.enabled[line].getLsbD q = true := by
  unfold irqEvents
  simp only [List.mem_append, List.mem_map, List.mem_filter, List.mem_finRange, true_and]
  constructor
  · rintro (⟨l, hl, he⟩ | h)
    · injection he with he; subst he; exact hl
    · split at h <;> simp at h
  · intro h; exact Or.inl ⟨line, h, rfl⟩

theorem vectored_mem_irqEvents (s : Icu) (q : Fin 16) (addr : U32) (ctx : Bool) :
    IcuEvent.vectored addr ctx ∈ s.irqEvents q ↔
      (s.vectoredEnabled.getLsbD q = true ∧ addr = s.getVector q ∧
       ctx = (s.vectorContextSwitch[q] != 0)) := by
  unfold irqEvents
  simp only [List.mem_append, List.mem_map, List.mem_filter, List.mem_finRange, true_and]
  constructor
  · rintro (⟨l, _, he⟩ | h)
    · cases he
    · split at h
      · rename_i hv
        simp only [List.mem_singleton] at h
        injection h with h1 h2
        exact ⟨hv, h1, h2⟩
      · simp at h
  · rintro ⟨hv, ha, hc⟩
    right; simp [hv, ha, hc]

/-- No callback of `q` is made twice: the three lines are run through once, and the vectored
callback is none of them. -/
theorem nodup_irqEvents (s : Icu) (q : Fin 16) : (s.irqEvents q).Nodup := by
  unfold irqEvents
  refine List.nodup_append.2
    ⟨((List.nodup_finRange 3).filter _).map _ fun a b h e => h (IcuEvent.interrupt.inj e), ?_, ?_⟩
  · split
    · exact List.nodup_cons.2 ⟨List.not_mem_nil, List.nodup_nil⟩
    · exact List.nodup_nil
  · intro a ha b hb
    obtain ⟨l, _, rfl⟩ := List.mem_map.1 ha
    split at hb
    · cases List.mem_singleton.1 hb; exact IcuEvent.noConfusion
    · cases hb

private theorem count_interrupt_irqEvents (s : Icu) (q : Fin 16) (line : Fin 3) :
    (s.irqEvents q).count (IcuEvent.interrupt line) = if s.enabled[line].getLsbD q then 1 else 0 := by
  rw [(nodup_irqEvents s q).count]
  simp only [interrupt_mem_irqEvents]

private theorem count_interrupt_flatMap (s : Icu) (line : Fin 3) (l : List (Fin 16)) :
    (l.flatMap s.irqEvents).count (IcuEvent.interrupt line) =
      (l.filter fun (q : Fin 16) => s.enabled[line].getLsbD q).length := by
  induction l with
  | nil => rfl
  | cons q l ih =>
    simp only [List.flatMap_cons, List.count_append, ih, count_interrupt_irqEvents, List.filter]
    cases s.enabled[line].getLsbD q <;> simp <;> omega

/-- **Routing of `ICU::Trigger`.**
1. The callbacks are, for the triggered request lines in ascending order, the callbacks of each
   line: the interrupt lines 0, 1, 2 that have it enabled (ascending), then the vectored one.
2. Interrupt line `i` receives an event for request `q` iff `q` is among the triggered bits and
   `enabled[i][q]` — exactly one event per such `q` (the count statement).
3. A vectored event is delivered for `q` iff `q` is triggered and `vectored_enabled[q]`; it
   carries the address `vector_low[q] | vector_high[q] << 16` and the flag
   `vector_context_switch[q] != 0`. -/
theorem trigger_routes (s : Icu) (irqBits : U16) :
    (s.trigger irqBits).2 = (triggered irqBits).flatMap s.irqEvents ∧
    (∀ (q : Fin 16) (line : Fin 3),
      IcuEvent.interrupt line ∈ s.irqEvents q ↔ s.enabled[line].getLsbD q = true) ∧
    (∀ (q : Fin 16) (addr : U32) (ctx : Bool), IcuEvent.vectored addr ctx ∈ s.irqEvents q ↔
      (s.vectoredEnabled.getLsbD q = true ∧ addr = s.getVector q ∧
       ctx = (s.vectorContextSwitch[q] != 0))) ∧
    (∀ (line : Fin 3), IcuEvent.interrupt line ∈ (s.trigger irqBits).2 ↔
      ∃ q : Fin 16, irqBits.getLsbD q = true ∧ s.enabled[line].getLsbD q = true) ∧
    (∀ (line : Fin 3), (s.trigger irqBits).2.count (IcuEvent.interrupt line) =
      ((List.finRange 16).filter fun (q : Fin 16) =>
        irqBits.getLsbD q && s.enabled[line].getLsbD q).length) ∧
    (∀ (addr : U32) (ctx : Bool), IcuEvent.vectored addr ctx ∈ (s.trigger irqBits).2 ↔
      ∃ q : Fin 16, irqBits.getLsbD q = true ∧ s.vectoredEnabled.getLsbD q = true ∧
        addr = s.getVector q ∧ ctx = (s.vectorContextSwitch[q] != 0)) := by
  refine ⟨rfl, interrupt_mem_irqEvents s, vectored_mem_irqEvents s, ?_, ?_, ?_⟩
  · intro line
    simp only [trigger, List.mem_flatMap, List.mem_filter, List.mem_finRange, true_and,
      interrupt_mem_irqEvents]
  · intro line
    simp only [trigger, count_interrupt_flatMap, List.filter_filter]
    congr 2; funext q; exact Bool.and_comm _ _
  · intro addr ctx
    simp only [trigger, List.mem_flatMap, List.mem_filter, List.mem_finRange, true_and,
      vectored_mem_irqEvents]

/-- `Trigger` latches exactly the triggered bits into `request` and changes nothing else. -/
theorem trigger_sets_request (s : Icu) (irqBits : U16) :
    (s.trigger irqBits).1 = { s with request := s.request ||| irqBits } ∧
    (∀ q : Nat, (s.trigger irqBits).1.getRequest.getLsbD q =
      (s.getRequest.getLsbD q || irqBits.getLsbD q)) := by
  refine ⟨rfl, fun q => ?_⟩
  simp [trigger, getRequest]

/-- `Acknowledge` clears exactly the acknowledged bits, changes nothing else and calls nothing. -/
theorem ack_exact (s : Icu) (irqBits : U16) :
    (s.acknowledge irqBits).request = s.request &&& ~~~irqBits ∧
    s.acknowledge irqBits = { s with request := s.request &&& ~~~irqBits } ∧
    (∀ q : Nat, q < 16 → (s.acknowledge irqBits).getRequest.getLsbD q =
      (s.getRequest.getLsbD q && !irqBits.getLsbD q)) := by
  refine ⟨rfl, rfl, fun q hq => ?_⟩
  simp [acknowledge, getRequest, hq]

private theorem singleBit_getLsbD (q r : Nat) :
    (singleBit q).getLsbD r = (decide (r < 16) && decide (q = r)) := by
  simp [singleBit, BitVec.getLsbD_ofNat, Nat.one_shiftLeft, Nat.testBit_two_pow]

private theorem triggered_singleBit : ∀ q : Fin 16, triggered (singleBit q) = [q] := by decide

private theorem singleBit_high : ∀ irq, irq < 32 → 16 ≤ irq → singleBit irq = 0 := by decide

theorem trigger_singleBit (s : Icu) (q : Fin 16) :
    s.trigger (singleBit q) = ({ s with request := s.request ||| singleBit q }, s.irqEvents q) := by
  show (_, (triggered (singleBit q)).flatMap s.irqEvents) = _
  rw [triggered_singleBit, List.flatMap_singleton]

/-- `TriggerSingle(q)` for a request line `q < 16` latches bit `q` and delivers exactly the
callbacks of that line; for `16 ≤ irq < 32` the narrowed word is 0 and nothing happens. -/
theorem triggerSingle_routes (s : Icu) :
    (∀ q : Fin 16, s.triggerSingle q =
      .ok ({ s with request := s.request ||| singleBit q }, s.irqEvents q)) ∧
    (∀ irq, irq < 32 → 16 ≤ irq → s.triggerSingle irq = .ok (s, [])) := by
  constructor
  · intro q
    rw [triggerSingle, if_pos (by omega), trigger_singleBit]
  · intro irq h1 h2
    simp [triggerSingle, h1, singleBit_high irq h1 h2, trigger]

/-- If no interrupt line and no vectored enable has `q`, triggering `q` produces no event —
alone or together with other equally unrouted lines (the bit is still latched in `request`). -/
theorem unrouted_never (s : Icu) :
    (∀ q : Fin 16, (∀ line : Fin 3, s.enabled[line].getLsbD q = false) →
      s.vectoredEnabled.getLsbD q = false →
      s.irqEvents q = [] ∧ s.triggerSingle q = .ok ({ s with request := s.request ||| singleBit q }, [])) ∧
    (∀ irqBits : U16,
      (∀ q : Fin 16, irqBits.getLsbD q = true →
        (∀ line : Fin 3, s.enabled[line].getLsbD q = false) ∧ s.vectoredEnabled.getLsbD q = false) →
      (s.trigger irqBits).2 = []) := by
  have h1 : ∀ q : Fin 16, (∀ line : Fin 3, s.enabled[line].getLsbD q = false) →
      s.vectoredEnabled.getLsbD q = false → s.irqEvents q = [] := by
    intro q he hv
    simp_all [irqEvents]
  constructor
  · intro q he hv
    refine ⟨h1 q he hv, ?_⟩
    rw [(triggerSingle_routes s).1 q, h1 q he hv]
  · intro irqBits h
    simp only [trigger, List.flatMap_eq_nil_iff, List.mem_filter, List.mem_finRange, true_and]
    intro q hq
    exact h1 q (h q hq).1 (h q hq).2

/-! ## request bits over arbitrary histories -/

/-- Every state-changing entry point of the ICU: the public methods and the three public vector
tables (written by the MMIO cells `0x212 + 4i`, `0x214 + 4i`). -/
inductive Op where
  | ack (irqBits : U16)
  | trigger (irqBits : U16)
  | triggerSingle (irq : Fin 32)
  | setEnable (interruptIndex : Fin 3) (irqBits : U16)
  | setEnableVectored (irqBits : U16)
  | setVector (irq : Fin 16) (low high contextSwitch : U16)

def step (s : Icu) : Op → Icu × List IcuEvent
  | .ack b => (s.acknowledge b, [])
  | .trigger b => s.trigger b
  | .triggerSingle irq => s.trigger (singleBit irq)
  | .setEnable i b => (s.setEnable i b, [])
  | .setEnableVectored b => (s.setEnableVectored b, [])
  | .setVector q lo hi cs =>
      ({ s with vectorLow := s.vectorLow.set q lo, vectorHigh := s.vectorHigh.set q hi,
                vectorContextSwitch := s.vectorContextSwitch.set q cs }, [])

/-- `step` on `.triggerSingle` is the guarded C++ method. -/
theorem step_triggerSingle (s : Icu) (irq : Fin 32) :
    s.triggerSingle irq = .ok (step s (.triggerSingle irq)) := by
  simp [triggerSingle, step]

def run : List Op → Icu → Icu
  | [], s => s
  | op :: ops, s => run ops (step s op).1

def Op.acks (q : Nat) : Op → Bool
  | .ack b => b.getLsbD q
  | _ => false

def Op.triggers (q : Nat) : Op → Bool
  | .trigger b => b.getLsbD q
  | .triggerSingle irq => (singleBit irq).getLsbD q
  | _ => false

/-- **Pending requests are sticky.**  A set request bit stays set across every operation other
than an `Acknowledge` that names it — re-triggering, enable / vector-table writes and
acknowledges of other bits included — and so across every history without such an
acknowledge.  Conversely a request bit only ever becomes set by a `Trigger` that names it. -/
theorem pending_sticky (q : Nat) :
    (∀ (s : Icu) (op : Op), s.request.getLsbD q = true → op.acks q = false →
      (step s op).1.request.getLsbD q = true) ∧
    (∀ (ops : List Op) (s : Icu), s.request.getLsbD q = true → (∀ op ∈ ops, op.acks q = false) →
      (run ops s).request.getLsbD q = true) ∧
    (∀ (s : Icu) (op : Op), s.request.getLsbD q = false → (step s op).1.request.getLsbD q = true →
      op.triggers q = true) := by
  have h1 : ∀ (s : Icu) (op : Op), s.request.getLsbD q = true → op.acks q = false →
      (step s op).1.request.getLsbD q = true := by
    intro s op hs ha
    cases op with
    | ack b =>
      have hb : b.getLsbD q = false := ha
      have hq := BitVec.lt_of_getLsbD hs
      simp_all [step, acknowledge]
    | trigger b => simp [step, trigger, hs]
    | triggerSingle irq => simp [step, trigger, hs]
    | _ => exact hs
  refine ⟨h1, ?_, ?_⟩
  · intro ops
    induction ops with
    | nil => intro s hs _; exact hs
    | cons op ops ih =>
      intro s hs h
      exact ih _ (h1 s op hs (h op List.mem_cons_self)) (fun o ho => h o (List.mem_cons_of_mem _ ho))
  · intro s op hs h
    cases op with
    | ack b => simp [step, acknowledge, hs] at h
    | trigger b => simpa [step, trigger, hs, Op.triggers] using h
    | triggerSingle irq => simpa [step, trigger, hs, Op.triggers] using h
    | setEnable i b => simp [step, setEnable, hs] at h
    | setEnableVectored b => simp [step, setEnableVectored, hs] at h
    | setVector q lo hi cs => simp [step, hs] at h

/-- Delivery happens at `Trigger` time only: changing the routing (`SetEnable`,
`SetEnableVectored`, vector tables) or acknowledging calls no handler, so a request that was
latched while unrouted is *not* delivered by the ICU when it is routed later (it stays visible in
`request`). -/
theorem route_change_silent (s : Icu) (op : Op) (h : ∀ q, op.triggers q = false) :
    (step s op).2 = [] := by
  -- no line is triggered, so the hypothesis of `unrouted_never` holds vacuously
  cases op with
  | trigger b => exact (unrouted_never s).2 b fun q hq => Bool.noConfusion ((h q).symm.trans hq)
  | triggerSingle irq => exact (unrouted_never s).2 _ fun q hq => Bool.noConfusion ((h q).symm.trans hq)
  | _ => rfl

/-! ## non-vacuity -/

/-- A state with line 0 enabled for requests 0 and 15, line 2 for request 1, vectored for 15:
triggering {0, 1, 15} calls line 0, line 2, line 0, then the vectored handler. -/
example :
    (({ enabled := #v[0x8001, 0, 2], vectoredEnabled := 0x8000,
        vectorLow := Vector.replicate 16 0x10, vectorHigh := Vector.replicate 16 3,
        vectorContextSwitch := Vector.replicate 16 1 } : Icu).trigger 0x8003).2 =
      [.interrupt 0, .interrupt 2, .interrupt 0, .vectored 0x30010 true] := by decide
example : (({ request := 0x4000 } : Icu).acknowledge 0x4000).request = 0 := by decide
example : (({ } : Icu).triggerSingle 0xE) = .ok ({ request := 0x4000 }, []) := by decide
example : Op.acks 14 (.ack 0x0001) = false ∧ Op.acks 14 (.trigger 0x4000) = false ∧
    Op.triggers 14 (.triggerSingle 14) = true := by decide

end Teakra.Icu
