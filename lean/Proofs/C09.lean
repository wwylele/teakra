import Proofs.Cycle.Book
import Proofs.C09.Plain
import Proofs.C09.Rep
import Proofs.C09.Nest
import Proofs.C09.Block
import Proofs.C09.Handlers
import Proofs.C09.Decode
import Proofs.C09.Frame
import Proofs.C09.FrameRun
import Proofs.C09.RoundTrip
/-!
# C09 — hardware loops execute their body exactly `count + 1` times

Everything is about the model of `Interpreter::Run`'s loop body, `cycle` (`TeakraModel/Run.lean`).

## A. The bookkeeping of one loop body (`Proofs/Cycle.lean`, `Proofs/Cycle/Book.lean`)

`cycle_run` (`Proofs/Cycle.lean`): after the latch, `cycle` = `fetch` → the two bookkeeping blocks
(`booked`: `repBook`, `loopBook`, two pure functions on the register file) → `exec1` (`dispatch`) →
`interruptCheck`, with no side condition.  `cycle_one` / `cycle_two` are the closed forms for a
one- / two-word instruction.  What the bookkeeping does, case by case (`Book.lean`): `book_rep_more`,
`book_rep_last`, `book_rep_off`, `book_loop_back`, `book_loop_exit`, `book_loop_inside`,
`book_loop_off`, `book_bcn_range` (+ `cycle_bcn_range`: the model stops with `oob` when `lp` is set
and `bcn` is 0 or > 4, where the C++ indexes `bkrep_stack[bcn - 1]` outside its four entries).

## B. Counting

* `Plain A h` (`Proofs/C09/Plain.lean`): `h` leaves the loop registers, `prpage`, `ie`, the latches
  and the program words at the addresses `A` alone (`frame`), and does not depend on the loop
  registers or the access log (`blind`).  Instances (`Handlers.lean`): `plain_nop`,
  `plain_load_page`, `plain_load_modi`, `plain_modr` (`modr (Rn), step`), `plain_add_Ab_Bx`,
  `plain_sub_Ab_Bx` (accumulator add / sub with flags and saturation, all operand values).
* Equalities are stated through `seen`, i.e. on `loopView`: the whole machine state (registers,
  bus with memory and peripherals, event log, latches, idle flag) **except** the six loop registers
  `pc, rep, repc, lp, bcn, bkrep` and the memory-access log `Core.log`; the values of the six loop
  registers at the end are stated separately (`RepDone`, `BlkExit`), and `loopView_determines` says
  that the two together fix the final state up to the access log.  The access log is *not*
  compared (the loop logs one program fetch per iteration at the same address, the unrolled code
  would log fetches at consecutive addresses).
* `Sim n H P Q` (`Plain.lean`): from a state in `P`, `n` loop bodies show what one run of `H` shows
  and end in `Q`; every counting theorem is an instance of `Sim.step` (one loop body on a plain
  instruction), `Sim.seq` and `Sim.count` (a down-counting 16-bit counter).
* `rep_unrolled`, `rep_sets`, `rep_program` (`Rep.lean`); `blockRepeat_push`, `blockRepeat_full`,
  `break_spec`, `break_outside`, `nested_exit`, `outer_exit` (`Nest.lean`); `blk_step`, `blk_pass`,
  `bkrep_unrolled`, `bkrep_counter`, `bkrep_program` (`Block.lean`; blocks of one- and two-word
  instructions, a two-word instruction may be the last one).
* `Decode.lean`: the opcodes `nop`, `rep #imm8`, `rep r6`, `break`, `modr`, `bkrep #imm8, addr16`
  decode to their handlers (`fetches_*`), so the hypotheses `Fetches1` / `Fetches2` / `Code` reduce to
  statements about memory contents; `rep_imm8_modr` and `bkrep_imm8_nop_modr` below are fully
  spelled-out instances.

## C. Frame save / restore

`storeBlockRepeat_run`, `restoreBlockRepeat_run` (closed forms: which words at which addresses,
`packFlag` / `frameOf` bit packing, `storePop` / `restoreShift` / `restoreValid` on the loop
registers), `restore_store_words` (unpack ∘ pack = id on the word level), `restore_store_regs`
(pop then push-back is the identity on `bkrep, bcn, lp`, at every depth).  The hypotheses
`start, end < 2^18` and `lp ∈ {0, 1}` are necessary: `pack_needs_18bit`, `pack_needs_lp01`.

Left out: the closed forms of the handlers (`FrameRun.lean`) and the round trip of the register parts
(`RoundTrip.lean`: `storePop`, then `restorePure` fed with the packed words) are not composed.  There
is no theorem about `bkrepsto ; bkreprst` on a memory (that the four words read are the four words
written, and that the address register comes back), and `Exec.RegRef.lawful_sp` / `lawful_rn` are
used nowhere.
-/
namespace Teakra
open Exec ExecLemmas Interp Sys

/-- Outside the 18-bit address range the packing is not injective: bit 31 of `start` lands on the
valid bit of the flag word (the C++ `flag |= start >> 16` does the same). -/
theorem pack_needs_18bit : validOf (packFlag 0 { start := 0x80000000, end_ := 0, lc := 0 }) = 1 := by decide

/-- `lp << 15` keeps only bit 0 of `lp`. -/
theorem pack_needs_lp01 : validOf (packFlag 2 { start := 0, end_ := 0, lc := 0 }) = 0 := by decide

/-- **Instance: `rep #k` followed by `modr (Rn), step`.**  Memory holds the word `0x0C00 + k` at
`pc` and `0x0080 + 8 * step + n` behind it; interrupts disabled, no latch pending, no loop active.
Then `k + 2` loop bodies give the outcome of `k + 1` executions of the `modr` handler, and end
with `pc` behind both instructions, `rep = false`, `repc = 0`. -/
theorem rep_imm8_modr (c : Core) (k n st : Nat) (hk : k < 256) (hn : n < 8) (hst : st < 4)
    (accs accs' : List Access)
    (hrep : c.regs.rep = false) (hlp : c.regs.lp = 0) (hie : c.regs.ie = 0)
    (hip : c.ipend = Vector.replicate 3 false) (hvp : c.vpend = false)
    (hw0 : c.bus.programRead (fetchAddress c.regs) = .ok (BitVec.ofNat 16 (0x0C00 + k), accs))
    (hw1 : c.bus.programRead (fAddr c.regs.prpage (c.regs.pc + 1)) =
      .ok (BitVec.ofNat 16 (0x0080 + (8 * st + n)), accs')) :
    seen ((cycles (1 + (k + 1))).run c) = seen ((iter (Exec.modr_Rn_StepZIDS n st) (k + 1)).run c) ∧
    ∀ c', (cycles (1 + (k + 1))).run c = .ok ((), c') → RepDone (c.regs.pc + 1) c c' := by
  have hN : (imm16 k).toNat = k := toNat_ofNat16 k (by omega)
  have := rep_program (A := fun _ => True) (plain_modr _ n st) c (imm16 k) hrep hlp hie hip hvp
    (fetches_rep_imm8 c.bus _ accs k hk hw0) (fun _ _ => rfl) trivial
    (fetches_modr c.bus _ accs' n st hn hst hw1)
  rw [hN] at this
  exact this

/-- **Instance: `bkrep #k, 0x0103` at address `0x0100`, block `nop ; modr (Rn), step`.**  Memory
holds `0x5C00 + k`, `0x0103`, `0x0000`, `0x0080 + 8 * step + n` at `0x100 … 0x103`; no loop active,
interrupts disabled, no latch pending.  Then `1 + (k + 1) * 2` loop bodies give the outcome of
`k + 1` executions of `nop ; modr`, and end at `pc = 0x104` with `lp = 0`, `bcn = 0` and the counter
of frame 0 at 0. -/
theorem bkrep_imm8_nop_modr (c : Core) (k n st : Nat) (hk : k < 256) (hn : n < 8) (hst : st < 4)
    (a0 a1 a2 a3 : List Access)
    (hpc : c.regs.pc = 0x100) (hrep : c.regs.rep = false) (hlp : c.regs.lp = 0) (hbcn : c.regs.bcn = 0)
    (hie : c.regs.ie = 0) (hip : c.ipend = Vector.replicate 3 false) (hvp : c.vpend = false)
    (hw0 : c.bus.programRead (fAddr c.regs.prpage 0x100) = .ok (BitVec.ofNat 16 (0x5C00 + k), a0))
    (hw1 : c.bus.programRead (fAddr c.regs.prpage 0x101) = .ok (0x0103, a1))
    (hw2 : c.bus.programRead (fAddr c.regs.prpage 0x102) = .ok (0, a2))
    (hw3 : c.bus.programRead (fAddr c.regs.prpage 0x103) = .ok (BitVec.ofNat 16 (0x0080 + (8 * st + n)), a3)) :
    seen ((cycles (1 + (k + 1) * 2)).run c) =
      seen ((iter (seqH [Exec.nop, Exec.modr_Rn_StepZIDS n st]) (k + 1)).run c) ∧
    ∀ c', (cycles (1 + (k + 1) * 2)).run c = .ok ((), c') →
      BlkExit (fun _ => True) c.bus c.regs.prpage 0 0x102 0x103 c.regs.bkrep 1 c' := by
  have hN : (imm16 k).toNat = k := toNat_ofNat16 k (by omega)
  have hs : (c.regs.pc + 2).toNat = 0x102 := by rw [hpc]; rfl
  have hfa : fetchAddress c.regs = fAddr c.regs.prpage 0x100 := by rw [fetchAddress_eq, hpc]
  have hfb : fetchAddress (bumpPc c.regs) = fAddr c.regs.prpage 0x101 := by
    rw [fetchAddress_eq, bumpPc_pc, hpc]; rfl
  have hcode : Code c.bus c.regs.prpage 0x102 [Exec.nop, Exec.modr_Rn_StepZIDS n st] 0x104 :=
    .cons (ℓ := 1) (.inl ⟨rfl, fetches_nop c.bus _ a2 hw2⟩)
      (.cons (ℓ := 1) (.inl ⟨rfl, fetches_modr c.bus _ a3 n st hn hst hw3⟩) (.nil _))
  have key := bkrep_program (A := fun _ => True) (i := 0) c (imm16 k) 0x103
    (Exec.bkrep_Imm8_Address16 k (0x0103 : U16).toNat) Exec.nop [Exec.modr_Rn_StepZIDS n st]
    hrep hie hip hvp (by rw [hbcn]; rfl) (book_loop_off _ hlp)
    (by rw [hfa, hfb]; exact fetches_bkrep_imm8 c.bus _ _ a0 a1 k hk 0x0103 hw0 hw1)
    (by
      intro x hx
      rw [bkrep_Imm8_run, hx]
      show (Exec.blockRepeat _ (_ ||| ((c.regs.pc + BitVec.ofNat 32 2) &&& 0x30000))).run x = _
      rw [hpc]; rfl)
    (by decide) (fun _ _ _ => trivial)
    (List.forall_mem_cons.2 ⟨plain_nop _, List.forall_mem_cons.2 ⟨plain_modr _ n st, fun _ h => nomatch h⟩⟩)
    (by rw [hs]; exact hcode)
  rw [hN, hs, hbcn] at key
  exact key

end Teakra
