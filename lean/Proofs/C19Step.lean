import TeakraModel.Conc
/-!
# C19: what one atomic action does, component by component

`step` is a case distinction over 33 kinds of action (the 24 calls and the 9 other frames).  Every theorem about
the interleaving semantics looks at one component of the state: one channel with its histories (`view`), one latch
(`lview`), one thread's stack and its signalling counters.  `step_spec` says what an action does to each of them:
the sweep over the 33 cases of `step` is made here only (`C19Wake` splits over the seven cases of `pushed`,
`C19Conc.handler_triggers` unfolds `step` for one given frame).
-/
namespace Teakra.Conc
open Teakra

/-! ## the guarded critical sections, with the guard taken off -/

theorem trigger_some {t : Tid} {bits : U16} {rest : List Frame} {g g' : Global}
    (h : trigger t bits rest g = some g') :
    g' = { g with icu := (g.icu.trigger bits).1, icuLock := some t, triggers := g.triggers + 1,
                  routed := upd g.routed t
                    (g.routed t + ((g.icu.trigger bits).2.flatMap eventFrames).countP isLatchSet),
                  stack := upd g.stack t ((g.icu.trigger bits).2.flatMap eventFrames ++ Frame.icuRelease :: rest) } :=
  (Option.some.inj (Option.ite_none_left_eq_some.1 h).2).symm

theorem icuCS_some {t : Tid} {rest : List Frame} {g g' : Global} {f : Icu → Icu}
    (h : icuCS rest t g f = some g') : g' = { g with icu := f g.icu, stack := upd g.stack t rest } :=
  (Option.some.inj (Option.ite_none_left_eq_some.1 h).2).symm

theorem semCS_some {t : Tid} {rest : List Frame} {g g' : Global} {s : Side} {f : Apbp → Apbp}
    (h : semCS rest t s g f = some g') :
    g' = { g with apbp := upd g.apbp s (f (g.apbp s)), stack := upd g.stack t rest } :=
  (Option.some.inj (Option.ite_none_right_eq_some.1 h).2).symm

/-! ## point updates -/

@[simp] theorem upd_same {α β : Type} [DecidableEq α] (f : α → β) (a : α) (b : β) : upd f a b a = b := by simp [upd]

theorem upd_other {α β : Type} [DecidableEq α] {f : α → β} {a x : α} {b : β} (h : x ≠ a) : upd f a b x = f x := by
  simp [upd, h]

theorem upd_apply {α β γ : Type} [DecidableEq α] (h : β → γ) (f : α → β) (a : α) (b : β) (x : α) :
    h (upd f a b x) = upd (fun x => h (f x)) a (h b) x := by unfold upd; split <;> rfl

theorem upd_self {α β : Type} [DecidableEq α] (f : α → β) (a x : α) : upd f a (f a) x = f x := by
  unfold upd; split <;> simp [*]

theorem upd_dataChannels {a : Side → Apbp} {s : Side} {b : Apbp} (h : b.dataChannels = (a s).dataChannels) (s' : Side) :
    (upd a s b s').dataChannels = (a s').dataChannels := by
  rw [upd_apply Apbp.dataChannels, h, upd_self]

/-- The histories are indexed by side and channel. -/
theorem upd2 {β : Type} (f : Side → Fin 3 → β) (s s' : Side) (ch ch' : Fin 3) (b : β) :
    upd f s' (upd (f s') ch' b) s ch = if s' = s ∧ ch' = ch then b else f s ch := by
  unfold upd
  by_cases es : s = s' <;> by_cases ec : ch = ch' <;> simp [es, ec, eq_comm]

/-! ## one channel -/

structure ChanView where
  chan : DataChannel
  sent : List U16
  taken : List U16
  reads : List U16
  polls : List Bool
  sentIrq : List Bool

def view (g : Global) (s : Side) (ch : Fin 3) : ChanView :=
  ⟨g.chan s ch, g.sent s ch, g.taken s ch, g.reads s ch, g.polls s ch, g.sentIrq s ch⟩

inductive ChanOp where
  | none | send (v : U16) | recv | peek | setDisable (v : U16) | poll

def ChanView.apply (c : ChanView) : ChanOp → ChanView
  | .none => c
  | .send v => { c with chan := { c.chan with ready := true, data := v }, sent := c.sent ++ [v],
                        sentIrq := c.sentIrq ++ [decide (c.chan.disableInterrupt = 0)] }
  | .recv => { c with chan := { c.chan with ready := false }, reads := c.reads ++ [c.chan.data],
                      taken := if c.chan.ready then c.taken ++ [c.chan.data] else c.taken }
  | .peek => { c with reads := c.reads ++ [c.chan.data] }
  | .setDisable v => { c with chan := { c.chan with disableInterrupt := v } }
  | .poll => { c with polls := c.polls ++ [c.chan.ready] }

def chanOpOf (s : Side) (ch : Fin 3) : Frame → ChanOp
  | .call (.send s' ch' v) => if s' = s ∧ ch' = ch then .send v else .none
  | .call (.recv s' ch') => if s' = s ∧ ch' = ch then .recv else .none
  | .call (.peek s' ch') => if s' = s ∧ ch' = ch then .peek else .none
  | .call (.setDisable s' ch' v) => if s' = s ∧ ch' = ch then .setDisable v else .none
  | .call (.isReady s' ch') => if s' = s ∧ ch' = ch then .poll else .none
  | _ => .none

/-- A critical section on channel `(s', ch')` leaves the other channels alone.  (The bounds are given, `'ch.isLt`:
found by the index tactic each would cost as much as the proof.) -/
theorem chan_upd (f : Side → Apbp) (s s' : Side) (ch ch' : Fin 3) (c : DataChannel) :
    (upd f s' { f s' with dataChannels := (f s').dataChannels.set ch' c ch'.isLt } s).dataChannels[ch]'ch.isLt =
      if s' = s ∧ ch' = ch then c else (f s).dataChannels[ch]'ch.isLt := by
  unfold upd
  by_cases es : s = s'
  · subst es
    by_cases ec : ch' = ch
    · subst ec; simp
    · have : (ch' : Nat) ≠ ch := fun e => ec (Fin.ext e)
      simp [ec, Vector.getElem_set_ne, this]
  · simp [es, Ne.symm es]

/-- `DataChannel::Send` calls the handler iff it finds the interrupt enabled. -/
theorem sendData_raises (g : Global) (s : Side) (ch : Fin 3) (v : U16) :
    (!((g.apbp s).sendData ch v).2.isEmpty) = decide ((g.chan s ch).disableInterrupt = 0) := by
  unfold Global.chan Apbp.sendData DataChannel.send
  cases decide ((g.apbp s).dataChannels[ch].disableInterrupt = 0) <;> rfl

/-! ## one latch -/

structure LatchView where
  latch : Bool
  ip : Bool
  observed : Nat
  sets : Nat

def lview (g : Global) (i : Fin 3) : LatchView := ⟨g.latch i, g.ip i, g.observed i, g.latchSets i⟩

inductive LatchOp where
  | none | set | exchange

def LatchView.apply (c : LatchView) : LatchOp → LatchView
  | .none => c
  | .set => { c with latch := true, sets := c.sets + 1 }
  | .exchange => if c.latch then { c with latch := false, ip := true, observed := c.observed + 1 } else c

def latchOpOf (i : Fin 3) : Frame → LatchOp
  | .latchSet j => if j = i then .set else .none
  | .call (.exchange j) => if j = i then .exchange else .none
  | _ => .none

/-! ## one thread: its stack and its signalling counters -/

/-- The stores `ICU::Trigger(bits)` schedules, then the end of its guard's scope. -/
def trigFrames (icu : Icu) (bits : U16) : List Frame :=
  (icu.trigger bits).2.flatMap eventFrames ++ [Frame.icuRelease]

/-- A handler of `apbp_from_cpu` is `icu.TriggerSingle(0xE)`; one of `apbp_from_dsp` is host code making `calls`. -/
def handlerFrames (g : Global) (calls : List Call) : Side → List Frame
  | .cpu => trigFrames g.icu apbpIrq
  | .dsp => calls.map .call

/-- The frames action `f` schedules in state `g`: they replace `f` on top of the thread's stack. -/
def pushed (cb : HostCallbacks) (g : Global) : Frame → List Frame
  | .call (.send s ch _) => if (g.chan s ch).disableInterrupt = 0 then [.dataHandler s ch] else []
  | .call (.semSet s bits) =>
    let ns := Apbp.signalOf ((g.apbp s).semaphore ||| bits) (g.apbp s).semaphoreMask
    (if ns then [.semHandler s] else []) ++ [.semSetFinish s ns]
  | .call (.semMask s bits) =>
    let ns := Apbp.signalOf (g.apbp s).semaphore bits
    (if ns && !(g.apbp s).semaphoreMasterSignal then [.semHandler s] else []) ++ [.semMaskFinish s ns]
  | .call (.icuTrigger bits) => trigFrames g.icu bits
  | .dataHandler s ch => handlerFrames g (cb.data ch) s
  | .semHandler s => handlerFrames g cb.sem s
  | _ => []

/-- The signalling counters of one thread, for one side's data handler. -/
structure Counters where
  irqSends : Nat
  handlerRuns : Nat
  routed : Nat
  latched : Nat

def counters (g : Global) (t : Tid) (s : Side) : Counters :=
  ⟨g.irqSends t s, g.handlerRuns t s, g.routed t, g.latched t⟩

/-- The counters count frames: `irqSends` and `routed` the handler and latch frames pushed, `handlerRuns` and
`latched` those executed. -/
def Counters.exec (c : Counters) (s : Side) (f : Frame) (ps : List Frame) : Counters :=
  ⟨c.irqSends + ps.countP (isDataHandler s), c.handlerRuns + [f].countP (isDataHandler s),
   c.routed + ps.countP isLatchSet, c.latched + [f].countP isLatchSet⟩

/-- The counters against the stack `l`: the handler and latch frames pushed and not yet executed are on it. -/
def Counters.Balanced (c : Counters) (s : Side) (l : List Frame) : Prop :=
  c.irqSends = c.handlerRuns + l.countP (isDataHandler s) ∧ c.routed = c.latched + l.countP isLatchSet

theorem Counters.Balanced.exec {c : Counters} {s : Side} {f : Frame} {rest : List Frame}
    (h : c.Balanced s (f :: rest)) (ps : List Frame) : (c.exec s f ps).Balanced s (ps ++ rest) := by
  unfold Balanced Counters.exec at *
  rw [List.countP_cons, List.countP_cons] at h
  simp only [List.countP_append, List.countP_cons, List.countP_nil]
  omega

theorem countP_calls {p : Frame → Bool} (hp : ∀ c, p (Frame.call c) = false) (l : List Call) :
    (l.map Frame.call).countP p = 0 := by
  simp [List.countP_eq_zero, hp]

theorem countP_trigFrames_dh (s : Side) (icu : Icu) (bits : U16) :
    (trigFrames icu bits).countP (isDataHandler s) = 0 := by
  rw [List.countP_eq_zero]
  intro f hf
  simp only [trigFrames, List.mem_append, List.mem_flatMap, List.mem_singleton] at hf
  obtain ⟨e, -, he⟩ | rfl := hf
  · cases e <;> simp only [eventFrames, List.mem_cons, List.not_mem_nil, or_false] at he
    · subst he; simp [isDataHandler]
    · rcases he with rfl | rfl | rfl <;> simp [isDataHandler]
  · simp [isDataHandler]

theorem countP_trigFrames_ls (icu : Icu) (bits : U16) :
    (trigFrames icu bits).countP isLatchSet = ((icu.trigger bits).2.flatMap eventFrames).countP isLatchSet := by
  simp [trigFrames, isLatchSet]

/-! ## the action -/

/-- What thread `t`'s action `f` (with `rest` below it on `t`'s stack) makes of `g`. -/
structure StepSpec (cb : HostCallbacks) (t : Tid) (f : Frame) (rest : List Frame) (g g' : Global) : Prop where
  stack : g'.stack = upd g.stack t (pushed cb g f ++ rest)
  chan : ∀ s ch, view g' s ch = (view g s ch).apply (chanOpOf s ch f)
  latch : ∀ i, lview g' i = (lview g i).apply (latchOpOf i f)
  count : ∀ s, counters g' t s = (counters g t s).exec s f (pushed cb g f)
  count_other : ∀ t' s, t' ≠ t → counters g' t' s = counters g t' s

section
variable {cb : HostCallbacks} {t : Tid} {f : Frame} {rest : List Frame} {g g' : Global}

theorem StepSpec.irqSends (sp : StepSpec cb t f rest g g') (s : Side) :
    g'.irqSends t s = g.irqSends t s + (pushed cb g f).countP (isDataHandler s) :=
  congrArg Counters.irqSends (sp.count s)

theorem StepSpec.irqSends_other (sp : StepSpec cb t f rest g g') {t' : Tid} (h : t' ≠ t) (s : Side) :
    g'.irqSends t' s = g.irqSends t' s :=
  congrArg Counters.irqSends (sp.count_other t' s h)

theorem StepSpec.stack_self (sp : StepSpec cb t f rest g g') : g'.stack t = pushed cb g f ++ rest := by
  rw [sp.stack, upd_same]

theorem StepSpec.stack_other (sp : StepSpec cb t f rest g g') {t' : Tid} (h : t' ≠ t) : g'.stack t' = g.stack t' := by
  rw [sp.stack, upd_other h]

/-- None of `view`, `lview`, `counters` reads the ICU, the vectored-interrupt latches, `ipv` or the locks.  An action
that changes only those, the channels and the latches, takes its frame off the stack and schedules nothing satisfies
`StepSpec` if channels and latches change as `chanOpOf` and `latchOpOf` say.  The conditions on `f` (it schedules
nothing, is neither a data handler nor a latch store) hold by evaluation once `f` is given. -/
theorem StepSpec.frame {apbp : Side → Apbp} {sent reads taken : Side → Fin 3 → List U16}
    {polls sentIrq : Side → Fin 3 → List Bool} {icu : Icu} {vpending : Bool} {vaddr : U32} {vctx ipv : Bool}
    {semLock : Side → Option (Tid × Nat)} {icuLock : Option Tid} {latch ip : Fin 3 → Bool} {observed : Fin 3 → Nat}
    (hg : g' = { g with apbp, sent, reads, taken, polls, sentIrq, icu, vpending, vaddr, vctx, ipv, semLock, icuLock,
                        latch, ip, observed, stack := upd g.stack t rest })
    (hv : ∀ s ch, ⟨(apbp s).dataChannels[ch]'ch.isLt, sent s ch, taken s ch, reads s ch, polls s ch, sentIrq s ch⟩ =
      (view g s ch).apply (chanOpOf s ch f))
    (hl : ∀ i, ⟨latch i, ip i, observed i, g.latchSets i⟩ = (lview g i).apply (latchOpOf i f) := by exact fun _ => rfl)
    (hp : pushed cb g f = [] := by exact rfl)
    (hd : ∀ s, isDataHandler s f = false := by exact fun _ => rfl) (hs : isLatchSet f = false := by exact rfl) :
    StepSpec cb t f rest g g' := by
  subst hg
  refine ⟨by rw [hp]; rfl, hv, hl, fun s => ?_, fun _ _ _ => rfl⟩
  simp only [Counters.exec, hp, List.countP_singleton, hd, hs]; rfl

/-- `ICU::Trigger`, entered by the call itself or by a handler of `apbp_from_cpu`; a data handler has counted itself
in `handlerRuns` before. -/
theorem StepSpec.trigger {bits : U16} {handlerRuns : Tid → Side → Nat}
    (h : trigger t bits rest { g with handlerRuns } = some g') (hp : pushed cb g f = trigFrames g.icu bits)
    (hr : ∀ s, handlerRuns t s = g.handlerRuns t s + [f].countP (isDataHandler s))
    (hro : ∀ t' s, t' ≠ t → handlerRuns t' s = g.handlerRuns t' s)
    (hc : ∀ s ch, chanOpOf s ch f = .none := by exact fun _ _ => rfl)
    (hl : ∀ i, latchOpOf i f = .none := by exact fun _ => rfl) (hs : isLatchSet f = false := by exact rfl) :
    StepSpec cb t f rest g g' := by
  cases trigger_some h
  refine ⟨?_, fun s ch => by rw [hc]; rfl, fun i => by rw [hl]; rfl, fun s => ?_, fun t' s ht => ?_⟩
  · rw [hp]; simp [trigFrames]
  · simp [counters, Counters.exec, hp, hr, hs, countP_trigFrames_dh, countP_trigFrames_ls]
  · simp only [counters, upd_other ht, hro _ _ ht]

end

theorem step_spec {cb : HostCallbacks} {g g' : Global} {t : Tid} {f : Frame} {rest : List Frame}
    (hst : g.stack t = f :: rest) (h : step cb g t = some g') : StepSpec cb t f rest g g' := by
  simp only [step, hst] at h
  cases f with
  | call c =>
    cases c <;> dsimp only [execFrame, execCall] at h
    case send s' ch' v =>
      rw [sendData_raises] at h
      cases h
      refine ⟨?_, fun s ch => ?_, fun _ => rfl, fun s => ?_, fun t' s ht => by
        simp only [counters, upd_other ht]⟩
      · simp only [pushed, decide_eq_true_eq]; split <;> rfl
      · simp only [view, Global.chan, chanOpOf, upd2, Apbp.sendData, DataChannel.send, chan_upd]
        by_cases e : s' = s ∧ ch' = ch
        · obtain ⟨rfl, rfl⟩ := e; simp [ChanView.apply]; rfl
        · simp only [e, if_false, ChanView.apply]
      · simp only [counters, Counters.exec, pushed, upd_same, decide_eq_true_eq, Counters.mk.injEq]
        refine ⟨?_, rfl, ?_, rfl⟩
        · by_cases es : s = s' <;> split <;> simp [upd, es, isDataHandler, eq_comm (a := s')]
        · split <;> rfl
    case recv s' ch' | peek s' ch' | isReady s' ch' | setDisable s' ch' v =>
      cases h
      refine .frame rfl fun s ch => ?_
      simp only [view, Global.chan, chanOpOf, upd2, chan_upd, Apbp.recvData, DataChannel.recv, Apbp.peekData,
        DataChannel.peek, Apbp.isDataReady, DataChannel.isReady, Apbp.setDisableInterrupt,
        DataChannel.setDisableInterrupt]
      by_cases e : s' = s ∧ ch' = ch
      · obtain ⟨rfl, rfl⟩ := e; simp [ChanView.apply] <;> rfl
      · simp only [e, if_false, ChanView.apply]
    case semSet s' bits | semMask s' bits =>
      cases (Option.ite_none_right_eq_some.1 h).2
      refine ⟨by simp [pushed], fun s ch => ?_, fun _ => rfl, fun s => ?_, fun _ _ _ => rfl⟩
      · simp only [view, Global.chan, upd_apply Apbp.dataChannels, upd_self]; rfl
      · simp only [counters, Counters.exec, pushed]; split <;> rfl
    case icuTrigger bits =>
      exact .trigger h rfl (fun _ => rfl) fun _ _ _ => rfl
    case exchange j =>
      split at h <;> cases h <;> refine .frame rfl (fun _ _ => rfl) fun i => ?_ <;>
        by_cases e : i = j <;> simp [lview, latchOpOf, LatchView.apply, upd, eq_comm (a := j), *]
    case vexchange =>
      split at h <;> cases h <;> exact .frame rfl fun _ _ => rfl
    case semClear s' _ | semGet s' | maskGet s' | signaled s' =>
      exact .frame (semCS_some h) fun _ _ => by rw [upd_dataChannels] <;> rfl
    case icuGetRequest | icuAck | icuSetEnable | icuSetEnableVectored | icuGetEnable | icuGetEnableVectored =>
      exact .frame (icuCS_some h) fun _ _ => rfl
    case getDisable | icuSetVectorLow | icuSetVectorHigh | icuSetVectorCtx =>
      cases h
      exact .frame rfl fun _ _ => rfl
  | dataHandler s' ch' =>
    cases s' with
    | cpu =>
      exact .trigger h rfl (fun s => by cases s <;> simp [upd, isDataHandler]) fun _ _ ht => by rw [upd_other ht]
    | dsp =>
      cases h
      refine ⟨rfl, fun _ _ => rfl, fun _ => rfl, fun s => ?_, fun t' s ht => ?_⟩
      · simp [counters, Counters.exec, pushed, handlerFrames, isDataHandler, isLatchSet, upd]
        cases s <;> simp
      · simp only [counters, upd_other ht]
  | semHandler s' =>
    cases s' with
    | cpu =>
      exact .trigger h rfl (fun _ => rfl) fun _ _ _ => rfl
    | dsp =>
      cases h
      refine ⟨rfl, fun _ _ => rfl, fun _ => rfl, fun s => ?_, fun _ _ _ => rfl⟩
      simp [counters, Counters.exec, pushed, handlerFrames, isDataHandler, isLatchSet]
  | semSetFinish s' ns | semMaskFinish s' ns =>
    cases h
    exact .frame rfl fun _ _ => by rw [upd_dataChannels] <;> rfl
  | latchSet j =>
    cases h
    refine ⟨rfl, fun _ _ => rfl, fun i => ?_, fun s => ?_, fun t' s ht => ?_⟩
    · by_cases e : i = j <;> simp [lview, latchOpOf, LatchView.apply, upd, e, eq_comm (a := j)]
    · simp [counters, Counters.exec, pushed, isDataHandler, isLatchSet]
    · simp only [counters, upd_other ht]
  | vlatchAddr | vlatchPending | vlatchCtx | icuRelease =>
    cases h
    exact .frame rfl fun _ _ => rfl

theorem step_cases {cb : HostCallbacks} {g g' : Global} {t : Tid} (h : step cb g t = some g') :
    ∃ f rest, g.stack t = f :: rest ∧ StepSpec cb t f rest g g' := by
  cases hst : g.stack t with
  | nil => simp [step, hst] at h
  | cons f rest => exact ⟨f, rest, rfl, step_spec hst h⟩

end Teakra.Conc
