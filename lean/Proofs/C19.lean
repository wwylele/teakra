import TeakraModel.Generated.LockTable
import Proofs.C19Lock
import Proofs.C19Pinned
import Proofs.C19Conc
import Proofs.C19Wake
/-!
# C19 — the host mailbox/semaphore API is race-free and loses nothing against a running DSP

This file holds only what depends on the regenerated table, so that when `/repo` changes it alone is re-proved
(≈ 10 s).

Two layers.

* **The lock discipline**, as theorems over the *regenerated* table
  `Teakra.Lock.table` (`tools/translate_locks.py` from `apbp.cpp`, `icu.h`, `interpreter.h`,
  `processor.cpp`, `teakra.cpp`, `mmio.cpp`) and the thread model of `TeakraModel/LockModel.lean`:
  `race_free` (no data race), `lock_order_acyclic` (no deadlock, including host callbacks that re-enter
  the mailbox API), `actions_justified` (the atomic actions of `TeakraModel/Conc.lean` are the critical
  sections and callback sites of the code).  The decision procedures (`findRaces`, `edgesForward`) are
  evaluated by the kernel on the table (`table_checks`, one evaluation shared by all theorems), so they
  are re-proved whenever the code changes.
* **`Proofs/C19Conc.lean`: what the protocol guarantees** over the interleaving semantics
  (`reads_are_writes`, `send_order`, `last_value_observed`, `send_signals`, `latch_exchange_lossless`),
  for all interleavings and unbounded histories; `Proofs/C19Wake.lean` adds `enable_then_poll_never_loses_wakeup`
  and `signal_accounting`.

## `race_free` holds on the current tree; it was false for the pinned upstream tree

On the pinned upstream tree two groups of members were accessed by both threads without a common lock:

1. `DataChannel::disable_interrupt` — `DataChannel::SetDisableInterrupt` wrote it with no lock (DSP
   thread, MMIO `0x0D4`) while `DataChannel::Send` reads it under the channel mutex (host thread,
   `Teakra::SendData`): `race_witness_disable_interrupt`.
2. `ICU::vector_low` / `vector_high` / `vector_context_switch` — written by the DSP thread through
   `Cell::RefCell` / `BitFieldSlot::RefSlot` (MMIO `0x212+4i`, `0x214+4i`) with no lock, read inside
   `ICU::Trigger` / `GetVector` under the ICU mutex by the host thread (`Teakra::SendData` → data handler
   → `icu.TriggerSingle(0xE)`): `race_witness_icu_vector_low`, `…_high`, `…_context_switch`.

Both are repaired in `/repo` (`SetDisableInterrupt` takes the channel mutex, the vector tables have accessors that
take the ICU mutex), `knownRacy` (`Proofs/C19Lock.lean`) is empty, and `race_free_holds` states race freedom of the
regenerated table for every shared member.  The witnesses, `racy_fields_golden` and `race_free_golden_false` are
stated over the committed snapshot of the upstream tree, `Upstream.table` (`Proofs/C19Pinned.lean`), so they keep
holding; `race_free_after_patch` shows that the first repair alone removes the first group and nothing else.
`Proofs/C19Golden.lean` ties the regenerated table to the committed snapshot of the current tree, `Golden.table`.
-/
namespace Teakra.Lock

/-- All table obligations in one kernel evaluation (the call-graph unfolding is the expensive part). -/
theorem table_checks : tableChecks table knownRacy = true := by
  rw [tableChecks, findRaces, findRacesIn_eq]
  decide +kernel

/-- The unfolding of both threads' call graphs terminated and every callback invoked is either wired by
`Teakra::Impl`'s constructor or installable by the host (then it is treated as host code that may call
every mailbox API method). -/
theorem analysis_closed : closed table = true := (tableChecks_sound table_checks).1

/-- **`race_free`**, the full statement for the code as it is now: no two accesses of the host thread
(mailbox/semaphore API) and the DSP thread (everything reachable from `Run`) race. -/
def race_free : Prop := RaceFree table

/-- Every shared member other than `knownRacy` is race-free.  `knownRacy` is empty on the current tree, so this is
`race_free_holds`; with a non-empty list it is what remains true while a reported race is not yet repaired. -/
theorem race_free_partial : RaceFreeExcept table knownRacy := (tableChecks_sound table_checks).2.1

/-- **`race_free` holds on the current tree** — for every shared member, the ICU vector tables included. -/
theorem race_free_holds : race_free := race_free_partial

/-- **No deadlock**: the lock-acquisition graph of both threads — including the locks held while
callbacks run, what the wired callbacks acquire (`semaphore_mutex` → ICU mutex), and a host callback on
`apbp_from_dsp` re-entering every mailbox API method under the recursive `semaphore_mutex` — is acyclic;
re-acquisition of the recursive `semaphore_mutex` by its holder is not an edge, re-acquisition of a plain
`std::mutex` would be a cycle. -/
theorem lock_order_acyclic : Acyclic (lockEdges table) := (tableChecks_sound table_checks).2.2.1

/-- Every `Teakra::…` method that reaches the mailboxes, the ICU or the processor is accounted for: it is
mailbox API (host thread), init phase, or `Run`. -/
theorem entries_classified : entriesClassified table = true := (tableChecks_sound table_checks).2.2.2.1

/-- The `initOnly` members (`handler`, `semaphore_handler`, `on_interrupt`, `on_vectored_interrupt`) are
not written by any method either thread can reach while running; their writers are init-phase API. -/
theorem initOnly_never_written : initOnlyUnwritten table = true := (tableChecks_sound table_checks).2.2.2.2.1

/-- The atomic actions, callback sites and wiring of the interleaving semantics are those of the code. -/
theorem actions_justified : actionsJustified table = true := (tableChecks_sound table_checks).2.2.2.2.2

end Teakra.Lock
