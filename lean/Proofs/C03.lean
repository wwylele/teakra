import TeakraModel.Alu
/-!
# C03 — accumulator add / subtract / compare / logic: exact results, flags and saturation

Value-level theorems about `Teakra.Alu` (the pure parts of `AddSub`, `SetAccFlag`, `SaturateAcc`
in `src/interpreter.h`), stated against exact integer arithmetic.  The first sections are the
vocabulary every later file of C03 / C04 uses: a 40-bit pattern inside a 64-bit word is read through
`setWidth 40`, its number is `I40`, and `AccWF` says the word is the sign extension of that pattern.
-/
namespace Teakra.Alu

def I40 (v : U64) : Int := (v.setWidth 40).toInt
def U40 (v : U64) : Nat := v.toNat % 2 ^ 40
/-- The representation invariant of accumulators: bits 40–63 repeat bit 39. -/
def AccWF (v : U64) : Prop := signExtend 40 v = v
instance (v : U64) : Decidable (AccWF v) := inferInstanceAs (Decidable (_ = _))
def wrap40 (i : Int) : Int := i.bmod (2 ^ 40)

/-! ## the bit tricks of the code, read once -/

theorem beq_eq_decide_toNat {w : Nat} (a b : BitVec w) : (a == b) = decide (a.toNat = b.toNat) := by
  rw [Bool.eq_iff_iff, beq_iff_eq, decide_eq_true_eq, BitVec.toNat_inj]

theorem bne_eq_decide_toNat {w : Nat} (a b : BitVec w) : (a != b) = decide (a.toNat ≠ b.toNat) := by
  rw [Bool.eq_iff_iff, bne_iff_ne, decide_eq_true_eq]; exact BitVec.toNat_ne

theorem mask40_toNat : mask40.toNat = 2 ^ 40 - 1 := by decide

theorem getLsbD_mask40 (i : Nat) : mask40.getLsbD i = decide (i < 40) := by
  rw [BitVec.getLsbD, mask40_toNat, Nat.testBit_two_pow_sub_one]

theorem getLsbD_and_mask40 (v : U64) (j : Nat) : (v &&& mask40).getLsbD j = (v.setWidth 40).getLsbD j := by
  rw [BitVec.getLsbD_and, getLsbD_mask40, BitVec.getLsbD_setWidth, Bool.and_comm]

theorem and_mask40_toNat (a : U64) : (a &&& mask40).toNat = a.toNat % 2 ^ 40 := by
  rw [BitVec.toNat_and, mask40_toNat, Nat.and_two_pow_sub_one_eq_mod]

theorem and_mask40_setWidth (a : U64) : (a &&& mask40).setWidth 40 = a.setWidth 40 := by
  rw [BitVec.setWidth_and, show mask40.setWidth 40 = BitVec.allOnes 40 by decide, BitVec.and_allOnes]

/-- The code reads one bit as `(v >> k) & 1`. -/
theorem shr_and_one (v : U64) (k : Nat) : (v >>> k) &&& 1 = if v.getLsbD k then 1 else 0 := by
  show (v >>> k) &&& 1#64 = _
  rw [BitVec.and_one_eq_setWidth_ofBool_getLsbD, BitVec.getLsbD_ushiftRight, Nat.add_zero]
  cases v.getLsbD k <;> rfl

theorem shr_and_one_setWidth (v : U64) (k : Nat) : ((v >>> k) &&& 1).setWidth 16 = b2u (v.getLsbD k) := by
  rw [shr_and_one]; cases v.getLsbD k <;> rfl

/-! ## `SignExtend`, `I40`, well-formed accumulators -/

theorem setWidth_signExtend64 {n : Nat} (z : BitVec n) (h : n ≤ 64) : (z.signExtend 64).setWidth n = z := by
  apply BitVec.eq_of_getLsbD_eq; intro i hi
  simp only [BitVec.getLsbD_setWidth, BitVec.getLsbD_signExtend, hi, decide_true, Bool.true_and,
    if_true, show i < 64 by omega]

theorem setWidth_signExtend (bits : Nat) (v : U64) (h : bits ≤ 64) :
    (signExtend bits v).setWidth bits = v.setWidth bits :=
  setWidth_signExtend64 _ h

theorem toInt_signExtend (bits : Nat) (v : U64) (h : bits ≤ 64) :
    (signExtend bits v).toInt = (v.setWidth bits).toInt :=
  BitVec.toInt_signExtend_of_le h

theorem toNat_signExtend (bits : Nat) (v : U64) (h2 : bits ≤ 64) :
    (signExtend bits v).toNat =
      v.toNat % 2 ^ bits + if 2 ^ (bits - 1) ≤ v.toNat % 2 ^ bits then 2 ^ 64 - 2 ^ bits else 0 := by
  unfold signExtend
  rw [BitVec.toNat_signExtend, BitVec.toNat_setWidth, BitVec.toNat_setWidth, BitVec.msb_eq_decide,
    BitVec.toNat_setWidth]
  have hle : 2 ^ bits ≤ 2 ^ 64 := Nat.pow_le_pow_right (by decide) h2
  have : v.toNat % 2 ^ bits % 2 ^ 64 = v.toNat % 2 ^ bits :=
    Nat.mod_eq_of_lt (Nat.lt_of_lt_of_le (Nat.mod_lt _ (Nat.two_pow_pos bits)) hle)
  rw [this]
  by_cases hh : 2 ^ (bits - 1) ≤ v.toNat % 2 ^ bits <;> simp [hh]

theorem toInt_high16 (a : U16) : (signExtend 32 ((a.setWidth 64 : U64) <<< 16)).toInt = a.toInt * 2 ^ 16 := by
  have hlt := a.isLt
  unfold signExtend
  rw [BitVec.toInt_signExtend_of_le (by decide), BitVec.toInt_eq_toNat_cond,
    BitVec.toInt_eq_toNat_cond, BitVec.toNat_setWidth, BitVec.toNat_shiftLeft, BitVec.toNat_setWidth,
    Nat.shiftLeft_eq]
  have e : a.toNat % 2 ^ 64 * 2 ^ 16 % 2 ^ 64 % 2 ^ 32 = a.toNat * 65536 := by omega
  rw [e]
  split <;> split <;> omega

theorem I40_signExtend (x : U64) : I40 (signExtend 40 x) = I40 x :=
  congrArg BitVec.toInt (setWidth_signExtend 40 x (by decide))

theorem signExtend40_wf (x : U64) : AccWF (signExtend 40 x) :=
  congrArg (BitVec.signExtend 64) (setWidth_signExtend 40 x (by decide))

theorem U40_eq (v : U64) : U40 v = (v.setWidth 40).toNat := (BitVec.toNat_setWidth 40 v).symm

theorem I40_cases (v : U64) :
    I40 v = if 2 ^ 39 ≤ v.toNat % 2 ^ 40 then ((v.toNat % 2 ^ 40 : Nat) : Int) - 2 ^ 40
            else ((v.toNat % 2 ^ 40 : Nat) : Int) := by
  unfold I40
  rw [BitVec.toInt_eq_toNat_cond, BitVec.toNat_setWidth]
  split <;> split <;> omega

theorem I40_bounds (v : U64) : -2 ^ 39 ≤ I40 v ∧ I40 v < 2 ^ 39 :=
  ⟨BitVec.le_toInt _, BitVec.toInt_lt⟩

theorem I40_of_wf (v : U64) (h : AccWF v) : I40 v = v.toInt := by
  unfold I40; rw [← toInt_signExtend 40 v (by decide), h]

theorem wf_beq (v c : U64) (h : AccWF v) : (v == c) = decide (I40 v = c.toInt) := by
  rw [I40_of_wf v h, Bool.eq_iff_iff, beq_iff_eq, decide_eq_true_eq, BitVec.toInt_inj]

/-- A well-formed accumulator is either a small non-negative number or a 64-bit pattern with all
of bits 39–63 set; its signed 40-bit value is then its 64-bit two's-complement value. -/
theorem wf_toNat_cases (v : U64) (h : AccWF v) :
    (v.toNat < 2 ^ 39 ∧ I40 v = v.toNat) ∨
    (2 ^ 64 - 2 ^ 39 ≤ v.toNat ∧ I40 v = (v.toNat : Int) - 2 ^ 64) := by
  have hn : (signExtend 40 v).toNat = v.toNat := congrArg BitVec.toNat h
  rw [toNat_signExtend 40 v (by decide)] at hn
  have hI := I40_cases v
  have hlt := v.isLt
  split at hI
  · right; rw [if_pos (by omega)] at hn; omega
  · left; rw [if_neg (by omega)] at hn; omega

theorem wf_of_toNat (v : U64) (h : v.toNat < 2 ^ 39 ∨ 2 ^ 64 - 2 ^ 39 ≤ v.toNat) : AccWF v := by
  apply BitVec.eq_of_toNat_eq
  rw [toNat_signExtend 40 v (by decide)]
  have hlt := v.isLt
  split <;> omega

theorem I40_neg (x : U64) : I40 (~~~x + 1) = wrap40 (-(I40 x)) := by
  unfold I40 wrap40
  rw [show ~~~x + 1 = -x from (BitVec.neg_eq_not_add x).symm, BitVec.setWidth_neg_of_le (by decide),
    BitVec.toInt_neg]

theorem I40_not (x : U64) : I40 (~~~x) = -(I40 x) - 1 := by
  unfold I40
  rw [BitVec.setWidth_not (by decide)]
  generalize x.setWidth 40 = z
  have := z.isLt
  rw [BitVec.toInt_eq_toNat_cond, BitVec.toInt_eq_toNat_cond, BitVec.toNat_not]
  split <;> split <;> omega

theorem not_wf (x : U64) (h : AccWF x) : AccWF (~~~x) := by
  unfold AccWF signExtend
  rw [BitVec.setWidth_not (by decide), BitVec.signExtend_not (by decide)]
  exact congrArg _ h

/-! ## `AddSub` -/

private theorem setWidth40_sub (x y : U64) : (x - y).setWidth 40 = x.setWidth 40 - y.setWidth 40 := by
  rw [BitVec.sub_eq_add_neg, BitVec.setWidth_add _ _ (by decide), BitVec.setWidth_neg_of_le (by decide),
    ← BitVec.sub_eq_add_neg]

private theorem bit39_msb (v : U64) : v.getLsbD 39 = (v.setWidth 40).msb := by
  simp [BitVec.msb_setWidth]

theorem addSub_result (a b : U64) (sub : Bool) :
    (addSub a b sub).result =
      (if sub then a.setWidth 40 - b.setWidth 40 else a.setWidth 40 + b.setWidth 40).signExtend 64 := by
  unfold addSub signExtend
  simp only []
  congr 1
  cases sub
  · simp only [Bool.false_eq_true, if_false, BitVec.setWidth_add _ _ (by decide : 40 ≤ 64), and_mask40_setWidth]
  · simp only [if_true, setWidth40_sub, and_mask40_setWidth]

theorem addSub_wf (a b : U64) (sub : Bool) : AccWF (addSub a b sub).result :=
  signExtend40_wf _

/-- **Exact value.**  The result of add/subtract is the exact integer sum/difference of the 40-bit
operands, wrapped to 40 bits two's complement. -/
theorem addSub_value (a b : U64) (sub : Bool) :
    I40 (addSub a b sub).result = wrap40 (if sub then I40 a - I40 b else I40 a + I40 b) := by
  rw [addSub_result]
  unfold I40 wrap40
  rw [setWidth_signExtend64 _ (by decide)]
  cases sub
  · simp [BitVec.toInt_add]
  · simp [BitVec.toInt_sub]

/-- **Carry.**  `fc0` is the carry out of bit 39 on add and the borrow on subtract. -/
theorem addSub_carry (a b : U64) (sub : Bool) :
    (addSub a b sub).fc0 =
      b2u (if sub then decide (U40 a < U40 b) else decide (2 ^ 40 ≤ U40 a + U40 b)) := by
  unfold addSub U40
  simp only [shr_and_one_setWidth]
  congr 1
  have hla : a.toNat % 2 ^ 40 < 2 ^ 40 := Nat.mod_lt _ (by decide)
  have hlb : b.toNat % 2 ^ 40 < 2 ^ 40 := Nat.mod_lt _ (by decide)
  rw [← BitVec.testBit_toNat, Nat.testBit_eq_decide_div_mod_eq]
  cases sub
  · simp only [Bool.false_eq_true, if_false, BitVec.toNat_add, and_mask40_toNat, decide_eq_decide]
    omega
  · simp only [if_true, BitVec.toNat_sub, and_mask40_toNat, decide_eq_decide]
    omega

/-- **Overflow.**  `fv` is set exactly when the exact sum/difference does not fit 40 bits signed. -/
theorem addSub_overflow (a b : U64) (sub : Bool) :
    (addSub a b sub).fv =
      b2u (let exact := if sub then I40 a - I40 b else I40 a + I40 b
           decide (exact < -2 ^ 39 ∨ 2 ^ 39 ≤ exact)) := by
  have hd (x : Int) : decide (x < -2 ^ 39 ∨ 2 ^ 39 ≤ x) = (decide (x ≥ 2 ^ 39) || decide (x < -2 ^ 39)) := by
    rw [← Bool.decide_or, decide_eq_decide]; omega
  unfold addSub I40
  simp only [shr_and_one_setWidth]
  congr 1
  -- bit 39 of the code's expression, in the sign bits of the 40-bit operands and of their sum / difference;
  -- that this is the signed overflow of 40-bit addition / subtraction is in the library
  cases sub <;>
    simp only [Bool.false_eq_true, if_false, if_true, BitVec.getLsbD_and, BitVec.getLsbD_not, BitVec.getLsbD_xor,
      getLsbD_mask40, show (39 < 64) = True from by decide, show (39 < 40) = True from by decide, decide_true,
      Bool.true_and, Bool.and_true]
  · rw [bit39_msb a, bit39_msb b, bit39_msb (_ + _), BitVec.setWidth_add _ _ (by decide), and_mask40_setWidth,
      and_mask40_setWidth, hd]
    refine .trans ?_ (BitVec.saddOverflow_eq (a.setWidth 40) (b.setWidth 40)).symm
    cases (a.setWidth 40).msb <;> cases (b.setWidth 40).msb <;> cases (a.setWidth 40 + b.setWidth 40).msb <;> rfl
  · rw [bit39_msb a, bit39_msb b, bit39_msb (_ - _), setWidth40_sub, and_mask40_setWidth, and_mask40_setWidth, hd]
    refine .trans ?_ (BitVec.ssubOverflow_eq (a.setWidth 40) (b.setWidth 40)).symm
    cases (a.setWidth 40).msb <;> cases (b.setWidth 40).msb <;> cases (a.setWidth 40 - b.setWidth 40).msb <;> rfl

/-! ## flags (`SetAccFlag`) and saturation (`SaturateAcc`) -/

/-- The extension test of `SetAccFlag` / `SaturateAcc`: the value does not fit 32 bits. -/
theorem ne_signExtend32 (v : U64) (h : AccWF v) :
    (v != signExtend 32 v) = decide (I40 v < -2 ^ 31 ∨ 2 ^ 31 ≤ I40 v) := by
  have hc := wf_toNat_cases v h
  have hlt := v.isLt
  rw [bne_eq_decide_toNat, toNat_signExtend 32 v (by decide), decide_eq_decide]
  rcases hc with ⟨h1, h2⟩ | ⟨h1, h2⟩ <;> split <;> omega

/-- The sign test of `SetAccFlag` / `SaturateAcc`. -/
theorem shr39_ne_zero (v : U64) (h : AccWF v) : ((v >>> 39) != 0) = decide (I40 v < 0) := by
  have hc := wf_toNat_cases v h
  have hlt := v.isLt
  rw [bne_eq_decide_toNat, BitVec.toNat_ushiftRight, Nat.shiftRight_eq_div_pow, decide_eq_decide]
  show v.toNat / 2 ^ 39 ≠ 0 ↔ _
  rcases hc with ⟨h1, h2⟩ | ⟨h1, h2⟩ <;> omega

/-- **Flags.**  Zero, minus, extension and normalized flags are exactly those of the 40-bit value:
`fz ⇔ v = 0`, `fm ⇔ v < 0`, `fe ⇔ v` does not fit 32 bits signed,
`fn ⇔ fz ∨ (¬fe ∧ bit31 ≠ bit30)`. -/
theorem accFlags_spec (v : U64) (h : AccWF v) :
    (accFlags v).fz = b2u (decide (I40 v = 0)) ∧ (accFlags v).fm = b2u (decide (I40 v < 0)) ∧
    (accFlags v).fe = b2u (decide (I40 v < -2 ^ 31 ∨ 2 ^ 31 ≤ I40 v)) ∧
    (accFlags v).fn = b2u (decide (I40 v = 0) || (!decide (I40 v < -2 ^ 31 ∨ 2 ^ 31 ≤ I40 v) &&
                (v.getLsbD 31 != v.getLsbD 30))) := by
  have hz : (v == 0) = decide (I40 v = 0) := wf_beq v 0 h
  have hx : (((v >>> 31) &&& (1 : U64)) ^^^ ((v >>> 30) &&& (1 : U64)) != 0) =
      (v.getLsbD 31 != v.getLsbD 30) := by
    rw [shr_and_one, shr_and_one]
    cases v.getLsbD 31 <;> cases v.getLsbD 30 <;> decide
  unfold accFlags
  simp only [hz, shr39_ne_zero v h, ne_signExtend32 v h, hx, and_self]

/-- **Saturation.**  A value that does not fit 32 bits is replaced by the nearest 32-bit bound (and
the caller sets the limit flag exactly then); a value that fits is unchanged. -/
theorem saturate_spec (v : U64) (h : AccWF v) :
    I40 (saturate v).1 = max (-2 ^ 31) (min (2 ^ 31 - 1) (I40 v)) ∧
    (saturate v).2 = decide (I40 v < -2 ^ 31 ∨ 2 ^ 31 ≤ I40 v) ∧ AccWF (saturate v).1 := by
  unfold saturate
  rw [ne_signExtend32 v h, shr39_ne_zero v h]
  by_cases hf : I40 v < -2 ^ 31 ∨ 2 ^ 31 ≤ I40 v
  · simp only [hf, decide_true, if_true]
    by_cases hn : I40 v < 0
    · simp only [hn, decide_true, if_true]
      refine ⟨?_, trivial, by decide⟩
      have : I40 (0xFFFFFFFF80000000 : U64) = -2 ^ 31 := by decide
      rw [this]; omega
    · simp only [hn, decide_false, Bool.false_eq_true, if_false]
      refine ⟨?_, trivial, by decide⟩
      have : I40 (0x000000007FFFFFFF : U64) = 2 ^ 31 - 1 := by decide
      rw [this]; omega
  · simp only [hf, decide_false, Bool.false_eq_true, if_false]
    exact ⟨by omega, trivial, h⟩

theorem saturate_of_fits (v : U64) (h : (v != signExtend 32 v) = false) : saturate v = (v, false) := by
  unfold saturate; simp only [h, Bool.false_eq_true, if_false]

end Teakra.Alu
