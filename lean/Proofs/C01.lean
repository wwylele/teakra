import TeakraModel.Run
import Proofs.C02
/-!
# C01 — instruction effects match the reference semantics

The reference is `Teakra.cycle` over the handler transcriptions (`TeakraModel/Exec/*.lean`); that the
implementation equals it is the instruction-level correspondence.  What is proved here is the
glue that the correspondence relies on:

* the decode table the interpreter model dispatches on (`instrTable`, emitted by
  `tools/gen_dispatch.py`) and the audited table of C02 (`Decode.table`, emitted by
  `tools/translate_decode.py`) — two independent translations of `decoder.h` — describe the same
  patterns in the same order (same fixed bits, masks, rejectors, expansion flags and operand
  fields), re-proved whenever `decoder.h` changes;
* hence the dispatcher's look-up inherits C02's uniqueness (`instr_unique`, `decodeInstr_eq_of_matches`: a matching
  entry is the one `decodeInstr` returns, without search) and finds, for every word, an entry with the signature of
  the one C02's `decode` finds (`decodeInstr_sig`); that the model then fetches a second word exactly when the C02
  table says the opcode is expanded is `Proofs/C02Fetch.lean`.  (The handler receives the `At` fields only:
  `Const`/`Cn` values, which `Decode.Pat.extract` lists as well, are written into the generated `dispatch` per entry.)
-/
namespace Teakra

abbrev PatSig := Nat × Nat × Bool × List (Nat × Nat) × List (Nat × Nat)

/-- The part of a pattern that decides matching and operand extraction. -/
def InstrPat.sig (p : InstrPat) : PatSig :=
  (p.expected, p.mask, p.expanded, p.rejectors, p.fields)

def Decode.Pat.sig (p : Decode.Pat) : PatSig :=
  (p.expected, p.mask, p.expanded, p.rejectors,
   (p.operands.filter fun o => o.kind == "At" || o.kind == "AtNamed").map fun o =>
     (o.pos, if o.pos == 16 then 16 else o.bits))

/-- **One decode table.**  The dispatcher's table and the C02 table agree entry by entry. -/
theorem instrTable_agrees : instrTable.map InstrPat.sig = Decode.table.map Decode.Pat.sig := by
  have : (instrTable.map InstrPat.sig == Decode.table.map Decode.Pat.sig) = true := by decide +kernel
  exact eq_of_beq this

/-- Same number of entries, same order: the dispatcher index is the C02 table index. -/
theorem instrTable_length : instrTable.length = Decode.table.length := by
  simpa using congrArg List.length instrTable_agrees

/-- `Matcher::Matches` as a function of the signature: both tables' `matches` are this, by unfolding. -/
def PatSig.matchesN (s : PatSig) (n : Nat) : Bool :=
  (n &&& s.2.1 == s.1) && s.2.2.2.1.all fun r => !Decode.rejects r n

theorem InstrPat.matchesWord_sig (p : InstrPat) (n : Nat) : p.matchesWord n = PatSig.matchesN p.sig n := rfl

theorem Decode.Pat.matchesN_sig (q : Decode.Pat) (n : Nat) : q.matchesN n = PatSig.matchesN q.sig n := rfl

theorem matchesWord_eq (p : InstrPat) (q : Decode.Pat) (h : p.sig = q.sig) (n : Nat) :
    p.matchesWord n = q.matchesN n := by
  rw [InstrPat.matchesWord_sig, h, Decode.Pat.matchesN_sig]

/-- **At most one entry matches a word** — for the table the interpreter and the disassembler model look words up in. -/
theorem instr_unique (w : BitVec 16) : (instrTable.filter (·.matchesWord w.toNat)).length ≤ 1 := by
  have h := congrArg (fun l => (l.filter (PatSig.matchesN · w.toNat)).length) instrTable_agrees
  simp only [List.filter_map, List.length_map] at h
  exact h ▸ Decode.decode_unique w

theorem decodeInstr_eq_of_matches {p : InstrPat} (w : BitVec 16) (hp : p ∈ instrTable)
    (hm : p.matchesWord w.toNat = true) : decodeInstr w.toNat = some p :=
  List.find?_eq_some_of_filter_length_le_one (instr_unique w) hp hm

/-- For a word given as a number: decoding a family `base + k` needs one row matched against the family, not a
search through the table. -/
theorem decodeInstr_of_matches {p : InstrPat} {n : Nat} (hp : p ∈ instrTable) (hn : n < 65536)
    (hm : p.matchesWord n = true) : decodeInstr n = some p := by
  have := decodeInstr_eq_of_matches (BitVec.ofNat 16 n) hp
  rw [BitVec.toNat_ofNat, Nat.mod_eq_of_lt hn] at this
  exact this hm

theorem decodeInstr_some {p : InstrPat} {n : Nat} (h : decodeInstr n = some p) :
    p ∈ instrTable ∧ p.matchesWord n = true :=
  have h : instrTable.find? (·.matchesWord n) = some p := h
  ⟨List.mem_of_find?_eq_some h, by simpa using List.find?_some h⟩

theorem decodeInstr_sig (w : BitVec 16) :
    (decodeInstr w.toNat).map InstrPat.sig = (Decode.decode w).map Decode.Pat.sig := by
  have h := congrArg (List.find? (PatSig.matchesN · w.toNat)) instrTable_agrees
  simp only [List.find?_map] at h
  exact h

end Teakra
