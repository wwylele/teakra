import TeakraModel.LockModel
/-!
# C19, lock discipline: definitions and soundness of the decision procedures

Table-independent part of `Proofs/C19.lean`: what a data race and a lock-order cycle are
(`Conflict`, `RaceFreeExcept`, `Reach`, `Acyclic`), that the executable checkers of
`TeakraModel/LockModel.lean` decide them (`findRaces_sound`, `findRace_none_iff`, `edgesForward_sound`), and
the check `actionsJustified` tying the atomic actions of `TeakraModel/Conc.lean` to the table.  `tableChecks` is all of
them together; what a table that passes it satisfies is `tableChecks_sound`, from which the table modules project.
-/
namespace Teakra.Lock

/-! ## the `Nat.beq` spellings are `=` and `∈` -/

theorem ieq_iff (a b : Inst) : ieq a b = true ↔ a = b := by
  obtain ⟨a1, a2⟩ := a
  obtain ⟨b1, b2⟩ := b
  simp only [ieq, Bool.and_eq_true, Nat.beq_eq, Prod.mk.injEq]
  exact And.comm

theorem hasName_iff (xs : List Name) (x : Name) : hasName xs x = true ↔ x ∈ xs := by
  simp only [hasName, List.any_eq_true, Nat.beq_eq, exists_eq_right']

theorem hasInst_iff (xs : List Inst) (x : Inst) : hasInst xs x = true ↔ x ∈ xs := by
  simp only [hasInst, List.any_eq_true, ieq_iff, exists_eq_right']

/-! ## data races: definition, decision procedure, soundness -/

/-- Two object-level accesses **race**: they are made by different threads to the same member of the
same object, at least one is a write, they are not both atomic operations, and no mutex is held at both. -/
def Conflict (a b : IAccess) : Prop :=
  a.thread ≠ b.thread ∧ a.field = b.field ∧ (a.write = true ∨ b.write = true) ∧
  ¬ (a.atomic = true ∧ b.atomic = true) ∧ ∀ l ∈ a.locks, l ∉ b.locks

/-- The executable test is the definition. -/
theorem conflict_iff (a b : IAccess) : conflict a b = true ↔ Conflict a b := by
  simp only [conflict, Conflict, Bool.and_eq_true, Bool.or_eq_true, Bool.not_eq_eq_eq_not, Bool.not_true,
    ieq_iff, Nat.beq_eq, hasInst_iff, List.all_eq_true, ← Bool.not_eq_true, ne_eq, not_and]
  constructor
  · rintro ⟨⟨⟨⟨f, t⟩, w⟩, x⟩, l⟩; exact ⟨t, f, w, x, l⟩
  · rintro ⟨t, f, w, x, l⟩; exact ⟨⟨⟨⟨f, t⟩, w⟩, x⟩, l⟩

/-- The definition is symmetric, so looking at pairs (host access, other access) loses nothing. -/
theorem Conflict.symm {a b : IAccess} (h : Conflict a b) : Conflict b a := by
  obtain ⟨h1, h2, h3, h4, h5⟩ := h
  exact ⟨fun e => h1 e.symm, h2.symm, h3.symm, fun ⟨x, y⟩ => h4 ⟨y, x⟩, fun l hl hl' => h5 l hl' hl⟩

/-- No host-thread access to a member outside `excluded` races with any access of another thread. -/
def RaceFreeExcept (t : LockTable) (excluded : List Name) : Prop :=
  ∀ a ∈ iaccesses t, ∀ b ∈ iaccesses t, a.thread = hostThread → a.field.2 ∉ excluded → ¬ Conflict a b

/-- **Race freedom of a table**: for every shared member — the `initOnly` ones included, they are only
read while running — every pair of accesses from different threads with at least one write holds a common
lock or both are atomic. -/
def RaceFree (t : LockTable) : Prop := RaceFreeExcept t []

/-- Soundness and completeness of the checker: it finds no pair iff there is none. -/
theorem findRaces_sound (t : LockTable) (excluded : List Name) :
    findRaces t excluded = [] ↔ RaceFreeExcept t excluded := by
  simp only [findRaces, findRacesIn, RaceFreeExcept, List.flatMap_eq_nil_iff, List.mem_filter, List.map_eq_nil_iff,
    List.filter_eq_nil_iff, Bool.and_eq_true, Bool.not_eq_eq_eq_not, Bool.not_true, ← Bool.not_eq_true, Nat.beq_eq,
    hasName_iff, and_imp, conflict_iff]
  constructor
  · intro h a ha b hb hth hex hc
    -- `findRaces` pairs a host access with accesses of other threads only; a conflict is between different threads
    exact h a ha hth hex b hb (fun e => hc.1 (hth.trans e.symm)) hc
  · intro h a ha hth hex b hb _ hc
    exact h a ha b hb hth hex hc

/-- `findRace` (the first pair found) answers `none` exactly for a race-free table. -/
theorem findRace_none_iff (t : LockTable) : findRace t = none ↔ RaceFree t := by
  unfold findRace RaceFree
  rw [← findRaces_sound]
  cases findRaces t [] <;> simp

/-- A conflict needs the same member name, so an evaluation of the checker may test that first: for most pairs one
comparison of two numbers instead of the whole of `conflict`.  The table theorems rewrite with this before they
evaluate. -/
theorem findRacesIn_eq (accs : List IAccess) (excluded : List Name) :
    findRacesIn accs excluded =
      (accs.filter fun a => Nat.beq a.thread hostThread && !hasName excluded a.field.2).flatMap fun a =>
        ((accs.filter fun b => !(Nat.beq b.thread hostThread)).filter fun b =>
          Nat.beq a.field.2 b.field.2 && conflict a b).map fun b => (a, b) := by
  unfold findRacesIn
  congr; funext a; congr 1
  apply List.filter_congr
  intro b _
  cases h : conflict a b
  · simp
  · simp only [conflict, ieq, Bool.and_eq_true] at h
    simp [h.1.1.1.1.1]

/-! ## lock order: definition, decision procedure, soundness -/

/-- `b` can be reached from `a` along lock-order edges (`held → acquired while holding it`). -/
inductive Reach (edges : List (Inst × Inst)) : Inst → Inst → Prop where
  | edge {a b : Inst} : (a, b) ∈ edges → Reach edges a b
  | trans {a b c : Inst} : Reach edges a b → Reach edges b c → Reach edges a c

/-- No mutex can (transitively) be waited for while it is held.  A deadlock is a cycle of threads each
holding a mutex the next one waits for — a cycle of `held → acquired` edges; a thread re-acquiring a
non-recursive mutex it holds is a one-element cycle.  So an acyclic graph means no deadlock (every
critical section and callback of the model terminates). -/
def Acyclic (edges : List (Inst × Inst)) : Prop := ∀ l, ¬ Reach edges l l

/-- Soundness of the order check: if every edge goes strictly forward in some list, there is no cycle. -/
theorem edgesForward_sound (order : List Inst) (edges : List (Inst × Inst))
    (h : edgesForward order edges = true) : Acyclic edges := by
  have hr : ∀ a b, Reach edges a b → order.idxOf a < order.idxOf b := by
    intro a b r
    induction r with
    | edge he =>
      simp only [edgesForward, List.all_eq_true, Bool.and_eq_true, decide_eq_true_eq] at h
      exact (h _ he).2
    | trans _ _ ih1 ih2 => exact Nat.lt_trans ih1 ih2
  intro l r
  exact Nat.lt_irrefl _ (hr l l r)

/-! ## the model's atomic actions are the code's critical sections -/

/-- The callback call sites the interleaving semantics builds in: `Send` calls `handler` *after* the
channel guard's scope; `SetSemaphore` / `MaskSemaphore` call `semaphore_handler` under the semaphore
mutex; `Trigger` calls both ICU callbacks under the ICU mutex. -/
def modelCallbacks : List CallSite :=
  [⟨n% "DataChannel.Send", n% "callback", n% "DataChannel.handler", []⟩,
   ⟨n% "Apbp.SetSemaphore", n% "callback", n% "Apbp.semaphore_handler", [n% "Apbp.semaphore_mutex"]⟩,
   ⟨n% "Apbp.MaskSemaphore", n% "callback", n% "Apbp.semaphore_handler", [n% "Apbp.semaphore_mutex"]⟩,
   ⟨n% "ICU.Trigger", n% "callback", n% "ICU.on_interrupt", [n% "ICU.mutex"]⟩,
   ⟨n% "ICU.Trigger", n% "callback", n% "ICU.on_vectored_interrupt", [n% "ICU.mutex"]⟩]

/-- The wiring the interleaving semantics builds in (`Teakra::Impl`'s constructor). -/
def modelWiring : List Wire :=
  [⟨n% "icu", n% "ICU.on_interrupt", n% "processor", n% "Processor.SignalInterrupt"⟩,
   ⟨n% "icu", n% "ICU.on_vectored_interrupt", n% "processor", n% "Processor.SignalVectoredInterrupt"⟩,
   ⟨n% "apbp_from_cpu", n% "DataChannel.handler", n% "icu", n% "ICU.TriggerSingle"⟩,
   ⟨n% "apbp_from_cpu", n% "Apbp.semaphore_handler", n% "icu", n% "ICU.TriggerSingle"⟩]

/-- The stores of the two `Signal…` methods, in program order, each on a `std::atomic`. -/
def modelSignalStores : List Access :=
  [⟨n% "Interpreter.SignalInterrupt", n% "Interpreter.interrupt_pending", true, [], true⟩,
   ⟨n% "Interpreter.SignalVectoredInterrupt", n% "Interpreter.vinterrupt_address", true, [], true⟩,
   ⟨n% "Interpreter.SignalVectoredInterrupt", n% "Interpreter.vinterrupt_pending", true, [], true⟩,
   ⟨n% "Interpreter.SignalVectoredInterrupt", n% "Interpreter.vinterrupt_context_switch", true, [], true⟩]

/-- The methods that take a `std::lock_guard`. -/
def guarded (t : LockTable) (m : Name) : Bool := t.acquires.any (fun q => Nat.beq q.method m)

/-- **One critical section per action.**  The interleaving semantics executes each mailbox / semaphore /
ICU method as ONE atomic action (e.g. `Send`: read the interrupt-disable flag, store `ready` and `data`).
That is what the code does when
* no method takes more than one `lock_guard`,
* a method that takes a guard calls other translated methods only inside the guard's scope (a call made
  outside it - say `GetDisableInterrupt()` before the guard of `Send` - is a second critical section whose
  result is stale by the time the first one runs: the lost wake-up),
* a method that takes a guard touches lock-protected members only inside the guard's scope (an access
  that holds no lock and is not atomic either is an init-only member, checked by `initOnlyUnwritten`,
  or a race, reported by `findRaces`), and
* a method without a guard that forwards to guarded methods makes a single such call. -/
def oneCriticalSection (t : LockTable) : Bool :=
  t.acquires.all (fun q => (t.acquires.filter (fun q' => Nat.beq q'.method q.method)).length == 1) &&
  t.calls.all (fun c => !(Nat.beq c.kind (n% "method") && guarded t c.method) || !c.locks.isEmpty) &&
  t.accesses.all (fun a => !guarded t a.method || !a.locks.isEmpty || a.atomic || hasName initOnly a.field) &&
  t.calls.all (fun c => !(Nat.beq c.kind (n% "method") && !guarded t c.method && guarded t c.target) ||
    (t.calls.filter (fun c' => Nat.beq c'.kind (n% "method") && Nat.beq c'.method c.method)).length == 1)

/-- What `TeakraModel/Conc.lean` takes from the code, as a check of the table: the callback sites and
the locks held there, the wiring, no call of any kind inside a channel guard's scope, no nested
`lock_guard` inside one method, one critical section per method, the `Signal…` methods are exactly the
modelled atomic stores, and every access of `Interpreter::Run` to a latch is an atomic operation. -/
def actionsJustified (t : LockTable) : Bool :=
  oneCriticalSection t &&
  t.calls.filter (fun c => Nat.beq c.kind (n% "callback")) == modelCallbacks &&
  t.wiring == modelWiring &&
  t.calls.all (fun c => !hasName c.locks (n% "DataChannel.mutex")) &&
  t.acquires.all (fun q => q.held.isEmpty) &&
  t.accesses.filter (fun a => Nat.beq a.method (n% "Interpreter.SignalInterrupt") || Nat.beq a.method (n% "Interpreter.SignalVectoredInterrupt"))
    == modelSignalStores &&
  t.accesses.all (fun a => !(Nat.beq a.method (n% "Interpreter.Run")) || a.atomic)

/-! ## the combined check -/

/-- The members known to be racy on the current tree: none.  A member listed here is excluded from
`race_free_partial` (`Proofs/C19.lean`) while its race is reported and not yet repaired; the upstream snapshot
with its four racy members is in `Proofs/C19Pinned.lean`. -/
def knownRacy : List Name := []

/-- The ICU vector tables: what is still racy in the upstream snapshot once `SetDisableInterrupt` alone takes the
channel mutex (`race_free_after_patch`, `Proofs/C19Pinned.lean`). -/
def icuVectors : List Name := [n% "ICU.vector_low", n% "ICU.vector_high", n% "ICU.vector_context_switch"]

def tableChecks (t : LockTable) (excluded : List Name) : Bool :=
  closed t && (findRaces t excluded).isEmpty && edgesForward (lockOrder t) (lockEdges t) &&
  entriesClassified t && initOnlyUnwritten t && actionsJustified t

theorem tableChecks_sound {t : LockTable} {excluded : List Name} (h : tableChecks t excluded = true) :
    closed t = true ∧ RaceFreeExcept t excluded ∧ Acyclic (lockEdges t) ∧
    entriesClassified t = true ∧ initOnlyUnwritten t = true ∧ actionsJustified t = true := by
  simp only [tableChecks, Bool.and_eq_true, List.isEmpty_iff] at h
  obtain ⟨⟨⟨⟨⟨h1, h2⟩, h3⟩, h4⟩, h5⟩, h6⟩ := h
  exact ⟨h1, (findRaces_sound t excluded).1 h2, edgesForward_sound _ _ h3, h4, h5, h6⟩

end Teakra.Lock
