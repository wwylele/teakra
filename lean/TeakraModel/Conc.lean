import TeakraModel.Apbp
import TeakraModel.Icu
/-!
# Small-step interleaving semantics of the host mailbox API against a running DSP (property C19)

Two threads (`Tid.host`: the caller of the `Teakra::…` mailbox/semaphore API; `Tid.dsp`: the thread
inside `Teakra::Run`) act on one shared state: the two `Apbp` objects (`Side.cpu` = `apbp_from_cpu`,
`Side.dsp` = `apbp_from_dsp`), the `ICU`, and the interpreter's `std::atomic` latches.  The sequential
models `TeakraModel/Apbp.lean` and `TeakraModel/Icu.lean` (tied to the C++ by the C14 / ICU
correspondence runs) give the effect of every critical section.

**Atomic actions** are what the translated lock table justifies (`Proofs/C19.lean`,
`actions_justified` and `race_free_partial`): every access of a shared member happens under that
member's mutex or is an atomic operation, so

* each `DataChannel` method body is one action (its `std::lock_guard` scope contains no call); the
  data handler of `Send` is a *separate, later* action of the same thread, run with no lock held,
  exactly as `DataChannel::Send` calls `handler()` after the guard's scope;
* `Apbp::SetSemaphore` / `MaskSemaphore` hold the recursive `semaphore_mutex` from their first action
  (`semaphore |= bits` resp. `semaphore_mask = bits`, `new_signal` computed) over the handler call to
  their last action (`semaphore_master_signal = …`); other threads' semaphore calls on that `Apbp` block
  meanwhile, the same thread may re-enter (host callback);
* `ICU::Trigger` holds the (non-recursive) ICU mutex from `request |= bits` — where it also reads the
  enable masks and vectors — over the `on_interrupt` / `on_vectored_interrupt` calls; each of those is
  one atomic store per latch (`SignalInterrupt`: one store; `SignalVectoredInterrupt`: three stores
  `address`, `pending`, `context_switch`, in that order), each a separate action;
* `exchange i` / `vexchange` are the atomic `exchange(false)` of the latch block at the top of
  `Interpreter::Run`, each one action.

A thread is a stack of `Frame`s: its script of API calls, on top of it the continuation of the call in
progress (handler still to call, lock still to release).  Callbacks wired by `Teakra::Impl`'s
constructor are built in (`apbp_from_cpu`'s data and semaphore handlers are `icu.TriggerSingle(0xE)`;
the ICU callbacks are `SignalInterrupt` / `SignalVectoredInterrupt`); `apbp_from_dsp`'s handlers are host
code, given as the scripts `HostCallbacks` of calls the callback makes (it may re-enter the API).

What is *not* in this model: anything below "access under lock / atomic operation" of the C++ memory
model; scheduling fairness (`step` is a relation on states, theorems are safety properties over all
interleavings); `Reset` and handler installation (init phase); the direct MMIO writes to the ICU vector
tables are modelled as atomic actions although the C++ performs them unsynchronised (that race is
reported separately; a racy C++ program has no defined behaviour to model).
-/
namespace Teakra.Conc

inductive Tid where
  | host | dsp
  deriving DecidableEq, Repr, Inhabited

/-- Which `Apbp`: `cpu` = `apbp_from_cpu` (host writes, DSP reads), `dsp` = `apbp_from_dsp`. -/
inductive Side where
  | cpu | dsp
  deriving DecidableEq, Repr, Inhabited

/-- One API call of a script.  The `Apbp` calls are the methods of `apbp.cpp` (reached through
`Teakra::SendData` … or through MMIO cells `0x0C0`–`0x0D8`); the ICU calls are MMIO cells `0x200`–`0x250`;
`exchange`/`vexchange` are the latch block of one `Run` iteration. -/
inductive Call where
  | send (s : Side) (ch : Fin 3) (v : U16)
  | recv (s : Side) (ch : Fin 3)
  | peek (s : Side) (ch : Fin 3)
  | isReady (s : Side) (ch : Fin 3)
  | getDisable (s : Side) (ch : Fin 3)
  | setDisable (s : Side) (ch : Fin 3) (v : U16)
  | semSet (s : Side) (bits : U16)
  | semClear (s : Side) (bits : U16)
  | semMask (s : Side) (bits : U16)
  | semGet (s : Side)
  | maskGet (s : Side)
  | signaled (s : Side)
  | icuGetRequest
  | icuAck (bits : U16)
  | icuTrigger (bits : U16)
  | icuSetEnable (k : Fin 3) (bits : U16)
  | icuSetEnableVectored (bits : U16)
  | icuGetEnable (k : Fin 3)
  | icuGetEnableVectored
  | icuSetVectorLow (irq : Fin 16) (v : U16)
  | icuSetVectorHigh (irq : Fin 16) (v : U16)
  | icuSetVectorCtx (irq : Fin 16) (v : U16)
  | exchange (i : Fin 3)
  | vexchange
  deriving DecidableEq, Repr, Inhabited

/-- One pending atomic action (or call) of a thread. -/
inductive Frame where
  /-- a call of the script (or of a host callback) not yet started -/
  | call (c : Call)
  /-- `handler()` of `DataChannel::Send`, after the channel mutex was released -/
  | dataHandler (s : Side) (ch : Fin 3)
  /-- `semaphore_handler()`, under the semaphore mutex -/
  | semHandler (s : Side)
  /-- `semaphore_master_signal = semaphore_master_signal || new_signal;` and the end of the guard's scope -/
  | semSetFinish (s : Side) (newSignal : Bool)
  /-- `semaphore_master_signal = new_signal;` and the end of the guard's scope -/
  | semMaskFinish (s : Side) (newSignal : Bool)
  /-- `on_interrupt(i)` = `interrupt_pending[i] = true` -/
  | latchSet (i : Fin 3)
  /-- `vinterrupt_address = address` -/
  | vlatchAddr (a : U32)
  /-- `vinterrupt_pending = true` -/
  | vlatchPending
  /-- `vinterrupt_context_switch = context_switch` -/
  | vlatchCtx (b : Bool)
  /-- end of `ICU::Trigger`'s guard scope -/
  | icuRelease
  deriving DecidableEq, Repr, Inhabited

/-- The host's callbacks on `apbp_from_dsp` (`Teakra::SetRecvDataHandler`, `SetSemaphoreHandler`): the
calls each one makes. -/
structure HostCallbacks where
  data : Fin 3 → List Call
  sem : List Call

/-- Point update of a function. -/
def upd {α β : Type} [DecidableEq α] (f : α → β) (a : α) (b : β) : α → β := fun x => if x = a then b else f x

structure Global where
  /-- the two mailbox blocks -/
  apbp : Side → Apbp
  icu : Icu
  /-- `interrupt_pending[i]` -/
  latch : Fin 3 → Bool
  /-- `vinterrupt_pending`, `vinterrupt_address`, `vinterrupt_context_switch` -/
  vpending : Bool
  vaddr : U32
  vctx : Bool
  /-- `regs.ip[i]`, `regs.ipv` (core-private; set by the latch block) -/
  ip : Fin 3 → Bool
  ipv : Bool
  /-- holder and recursion depth of each `semaphore_mutex` -/
  semLock : Side → Option (Tid × Nat)
  /-- holder of the ICU mutex -/
  icuLock : Option Tid
  stack : Tid → List Frame
  -- history variables
  /-- values written to each channel, in order -/
  sent : Side → Fin 3 → List U16
  /-- values returned by `RecvData` / `PeekData` on each channel, in order -/
  reads : Side → Fin 3 → List U16
  /-- values returned by `RecvData` while the channel's ready flag was 1, in order -/
  taken : Side → Fin 3 → List U16
  /-- number of `SignalInterrupt(i)` stores / of `exchange` operations that returned true -/
  latchSets : Fin 3 → Nat
  observed : Fin 3 → Nat
  /-- per thread and side: sends that found the interrupt enabled / data-handler calls made -/
  irqSends : Tid → Side → Nat
  handlerRuns : Tid → Side → Nat
  /-- per thread: `on_interrupt` calls scheduled by `Trigger` / latch stores performed -/
  routed : Tid → Nat
  latched : Tid → Nat
  /-- number of `Trigger` critical sections entered -/
  triggers : Nat
  /-- values returned by `IsDataReady` on each channel, in order (polls by either thread) -/
  polls : Side → Fin 3 → List Bool
  /-- for each word of `sent`, in order: whether that `Send` found the channel's interrupt enabled in its
  critical section (and so went on to call the handler) -/
  sentIrq : Side → Fin 3 → List Bool

/-- State after construction (`Teakra::Teakra`): everything zero, nobody holds a lock, each thread has its
script to run. -/
def init (hostScript dspScript : List Call) (icu : Icu := {}) : Global where
  apbp _ := {}
  icu := icu
  latch _ := false
  vpending := false
  vaddr := 0
  vctx := false
  ip _ := false
  ipv := false
  semLock _ := none
  icuLock := none
  stack t := (match t with | .host => hostScript | .dsp => dspScript).map Frame.call
  sent _ _ := []
  reads _ _ := []
  taken _ _ := []
  latchSets _ := 0
  observed _ := 0
  irqSends _ _ := 0
  handlerRuns _ _ := 0
  routed _ := 0
  latched _ := 0
  triggers := 0
  polls _ _ := []
  sentIrq _ _ := []

/-- The channel object `data_channels[ch]` of one side. -/
def Global.chan (g : Global) (s : Side) (ch : Fin 3) : DataChannel := (g.apbp s).dataChannels[ch]

/-- The atomic stores `on_interrupt` / `on_vectored_interrupt` perform for one ICU event. -/
def eventFrames : IcuEvent → List Frame
  | .interrupt line => [.latchSet line]
  | .vectored a c => [.vlatchAddr a, .vlatchPending, .vlatchCtx c]

def isLatchSet : Frame → Bool
  | .latchSet _ => true
  | _ => false

def isDataHandler (s : Side) : Frame → Bool
  | .dataHandler s' _ => s' = s
  | _ => false

/-- Entering `ICU::Trigger(bits)`: take the ICU mutex (blocks if anybody — also this thread — holds it),
`request |= bits`, read the enable masks and vectors, and schedule the callback stores followed by the
release.  `rest` is the thread's stack below the current frame. -/
def trigger (t : Tid) (bits : U16) (rest : List Frame) (g : Global) : Option Global :=
  if g.icuLock.isSome then none
  else
    let r := g.icu.trigger bits
    let fr := r.2.flatMap eventFrames
    some { g with icu := r.1, icuLock := some t, triggers := g.triggers + 1,
                  routed := upd g.routed t (g.routed t + fr.countP isLatchSet),
                  stack := upd g.stack t (fr ++ Frame.icuRelease :: rest) }

/-- `(u16)(1 << 0xE)`: the request line of the APBP block. -/
def apbpIrq : U16 := Icu.singleBit 0xE

/-- The semaphore mutex of side `s` can be taken by `t`: free, or already held by `t` (recursive). -/
def semAvail (g : Global) (s : Side) (t : Tid) : Bool :=
  match g.semLock s with
  | none => true
  | some (t', _) => t' = t

def semAcquire (g : Global) (s : Side) (t : Tid) : Option (Tid × Nat) :=
  match g.semLock s with
  | none => some (t, 1)
  | some (_, n) => some (t, n + 1)

def semRelease (g : Global) (s : Side) : Option (Tid × Nat) :=
  match g.semLock s with
  | some (t, n + 2) => some (t, n + 1)
  | _ => none

/-- A single ICU critical section without callbacks. -/
def icuCS (rest : List Frame) (t : Tid) (g : Global) (f : Icu → Icu) : Option Global :=
  if g.icuLock.isSome then none else some { g with icu := f g.icu, stack := upd g.stack t rest }

/-- A single semaphore critical section without callbacks. -/
def semCS (rest : List Frame) (t : Tid) (s : Side) (g : Global) (f : Apbp → Apbp) : Option Global :=
  if semAvail g s t then some { g with apbp := upd g.apbp s (f (g.apbp s)), stack := upd g.stack t rest } else none

/-- Start of one API call by thread `t`; `rest` is its stack below the call. -/
def execCall (t : Tid) (rest : List Frame) (g : Global) : Call → Option Global
  | .send s ch v =>
    let r := (g.apbp s).sendData ch v
    let irq := !r.2.isEmpty
    some { g with apbp := upd g.apbp s r.1,
                  sent := upd g.sent s (upd (g.sent s) ch (g.sent s ch ++ [v])),
                  irqSends := upd g.irqSends t (upd (g.irqSends t) s (g.irqSends t s + (if irq then 1 else 0))),
                  sentIrq := upd g.sentIrq s (upd (g.sentIrq s) ch (g.sentIrq s ch ++ [irq])),
                  stack := upd g.stack t (if irq then Frame.dataHandler s ch :: rest else rest) }
  | .recv s ch =>
    let r := (g.apbp s).recvData ch
    some { g with apbp := upd g.apbp s r.1,
                  reads := upd g.reads s (upd (g.reads s) ch (g.reads s ch ++ [r.2])),
                  taken := upd g.taken s (upd (g.taken s) ch
                    (if (g.apbp s).isDataReady ch then g.taken s ch ++ [r.2] else g.taken s ch)),
                  stack := upd g.stack t rest }
  | .peek s ch =>
    some { g with reads := upd g.reads s (upd (g.reads s) ch (g.reads s ch ++ [(g.apbp s).peekData ch])),
                  stack := upd g.stack t rest }
  | .isReady s ch =>
    some { g with polls := upd g.polls s (upd (g.polls s) ch (g.polls s ch ++ [(g.apbp s).isDataReady ch])),
                  stack := upd g.stack t rest }
  | .getDisable _ _ => some { g with stack := upd g.stack t rest }
  | .setDisable s ch v =>
    some { g with apbp := upd g.apbp s ((g.apbp s).setDisableInterrupt ch v), stack := upd g.stack t rest }
  | .semSet s bits =>
    if semAvail g s t then
      let a := g.apbp s
      let sem := a.semaphore ||| bits
      let ns := Apbp.signalOf sem a.semaphoreMask
      some { g with apbp := upd g.apbp s { a with semaphore := sem },
                    semLock := upd g.semLock s (semAcquire g s t),
                    stack := upd g.stack t ((if ns then [Frame.semHandler s] else []) ++ Frame.semSetFinish s ns :: rest) }
    else none
  | .semMask s bits =>
    if semAvail g s t then
      let a := g.apbp s
      let ns := Apbp.signalOf a.semaphore bits
      some { g with apbp := upd g.apbp s { a with semaphoreMask := bits },
                    semLock := upd g.semLock s (semAcquire g s t),
                    stack := upd g.stack t ((if ns && !a.semaphoreMasterSignal then [Frame.semHandler s] else []) ++
                                            Frame.semMaskFinish s ns :: rest) }
    else none
  | .semClear s bits => semCS rest t s g (·.clearSemaphore bits)
  | .semGet s => semCS rest t s g id
  | .maskGet s => semCS rest t s g id
  | .signaled s => semCS rest t s g id
  | .icuGetRequest => icuCS rest t g id
  | .icuAck bits => icuCS rest t g (·.acknowledge bits)
  | .icuTrigger bits => trigger t bits rest g
  | .icuSetEnable k bits => icuCS rest t g (·.setEnable k bits)
  | .icuSetEnableVectored bits => icuCS rest t g (·.setEnableVectored bits)
  | .icuGetEnable _ => icuCS rest t g id
  | .icuGetEnableVectored => icuCS rest t g id
  | .icuSetVectorLow irq v =>
    some { g with icu := { g.icu with vectorLow := g.icu.vectorLow.set irq v }, stack := upd g.stack t rest }
  | .icuSetVectorHigh irq v =>
    some { g with icu := { g.icu with vectorHigh := g.icu.vectorHigh.set irq v }, stack := upd g.stack t rest }
  | .icuSetVectorCtx irq v =>
    some { g with icu := { g.icu with vectorContextSwitch := g.icu.vectorContextSwitch.set irq v },
                  stack := upd g.stack t rest }
  | .exchange i =>
    if g.latch i then
      some { g with latch := upd g.latch i false, ip := upd g.ip i true, observed := upd g.observed i (g.observed i + 1),
                    stack := upd g.stack t rest }
    else some { g with stack := upd g.stack t rest }
  | .vexchange =>
    if g.vpending then some { g with vpending := false, ipv := true, stack := upd g.stack t rest }
    else some { g with stack := upd g.stack t rest }

/-- One atomic action of thread `t` whose top frame is `f`. -/
def execFrame (cb : HostCallbacks) (t : Tid) (rest : List Frame) (g : Global) : Frame → Option Global
  | .call c => execCall t rest g c
  | .dataHandler s ch =>
    let g' := { g with handlerRuns := upd g.handlerRuns t (upd (g.handlerRuns t) s (g.handlerRuns t s + 1)) }
    match s with
    | .cpu => trigger t apbpIrq rest g'
    | .dsp => some { g' with stack := upd g.stack t ((cb.data ch).map Frame.call ++ rest) }
  | .semHandler s =>
    match s with
    | .cpu => trigger t apbpIrq rest g
    | .dsp => some { g with stack := upd g.stack t (cb.sem.map Frame.call ++ rest) }
  | .semSetFinish s ns =>
    let a := g.apbp s
    some { g with apbp := upd g.apbp s { a with semaphoreMasterSignal := a.semaphoreMasterSignal || ns },
                  semLock := upd g.semLock s (semRelease g s), stack := upd g.stack t rest }
  | .semMaskFinish s ns =>
    let a := g.apbp s
    some { g with apbp := upd g.apbp s { a with semaphoreMasterSignal := ns },
                  semLock := upd g.semLock s (semRelease g s), stack := upd g.stack t rest }
  | .latchSet i =>
    some { g with latch := upd g.latch i true, latchSets := upd g.latchSets i (g.latchSets i + 1),
                  latched := upd g.latched t (g.latched t + 1), stack := upd g.stack t rest }
  | .vlatchAddr a => some { g with vaddr := a, stack := upd g.stack t rest }
  | .vlatchPending => some { g with vpending := true, stack := upd g.stack t rest }
  | .vlatchCtx b => some { g with vctx := b, stack := upd g.stack t rest }
  | .icuRelease => some { g with icuLock := none, stack := upd g.stack t rest }

/-- **The interleaving semantics**: thread `t` performs its next atomic action.  `none`: the thread has
finished, or it is blocked on a mutex another thread (or, for the ICU mutex, it itself) holds. -/
def step (cb : HostCallbacks) (g : Global) (t : Tid) : Option Global :=
  match g.stack t with
  | [] => none
  | f :: rest => execFrame cb t rest g f

/-- Run a schedule (a list of thread choices); choices of a finished or blocked thread are skipped. -/
def run (cb : HostCallbacks) : List Tid → Global → Global
  | [], g => g
  | t :: ts, g => run cb ts ((step cb g t).getD g)

/-- The states reachable from `g₀` by any interleaving. -/
inductive Reachable (cb : HostCallbacks) (g₀ : Global) : Global → Prop where
  | init : Reachable cb g₀ g₀
  | step {g g' : Global} (t : Tid) : Reachable cb g₀ g → step cb g t = some g' → Reachable cb g₀ g'

end Teakra.Conc
